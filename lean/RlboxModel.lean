-- Root of the `RlboxModel` library.
import RlboxModel.Generated
import RlboxModel.IntConv
import RlboxModel.ConvChain
import RlboxModel.Layout
import RlboxModel.Ptr
import RlboxModel.Range
import RlboxModel.Tokens
import RlboxModel.Mem
import RlboxModel.PtrOps
import RlboxModel.Lifecycle
import RlboxModel.Ops
import RlboxModel.Calls
import RlboxModel.Tls
import RlboxModel.Invoke
import RlboxModel.Casts
import RlboxModel.FloatOps
import RlboxModel.Struct
import RlboxModel.Snapshot
import RlboxModel.Threads
import RlboxModel.GeneratedTyping
import RlboxModel.Typing
import RlboxModel.TypingSpec
import RlboxModel.Lemmas.General
import RlboxModel.Lemmas.LifeLemmas
import RlboxModel.Lemmas.MemLemmas
import RlboxModel.Lemmas.Arith
import RlboxModel.Lemmas.StructLemmas
import RlboxModel.Lemmas.TlsLemmas
import RlboxModel.Lemmas.SnapLemmas
import RlboxModel.Lemmas.CallLemmas
import RlboxModel.Lemmas.CastLemmas
import RlboxModel.Lemmas.IntLemmas
import RlboxModel.Props.C01
import RlboxModel.Props.C02
import RlboxModel.Props.C03
import RlboxModel.Props.C04
import RlboxModel.Props.C05
import RlboxModel.Props.C06Core
import RlboxModel.Props.C06
import RlboxModel.Props.C07
import RlboxModel.Props.C08
import RlboxModel.Props.C09
import RlboxModel.Props.C10
import RlboxModel.Props.C11
import RlboxModel.Props.C12
import RlboxModel.Props.C13
import RlboxModel.Props.C14
import RlboxModel.Props.C15
import RlboxModel.Props.C16
import RlboxModel.Props.C17
import RlboxModel.Props.C18
import RlboxModel.Props.C19
import RlboxModel.Props.C20
