import RlboxModel.Ops
import RlboxModel.FloatOps
import RlboxModel.Lemmas.CastLemmas
/-!
# C16 — Operators on tainted numbers compute exactly what the plain operators compute
Property theorems only.  Every statement is for an arbitrary `PlainSem` (so nothing depends on our
rendering of C++ arithmetic) and for every combination of operand wrappers.
-/
namespace Rlbox.C16
open Rlbox

/-- the plain values the operands denote -/
def plainOf (x : Operand) : Option TV := unwrap x

/-- Binary arithmetic/bitwise/shift operators: whenever the operation does not abort while loading
an operand from sandbox memory, the wrapped result has exactly the type and value of the plain
expression on the underlying values (and is undefined exactly when the plain expression is). -/
theorem C16_value (sem : PlainSem) (op : BinSym) (a b : Operand) (x y : TV)
    (ha : plainOf a = some x) (hb : plainOf b = some y) :
    binOp sem op a b = (match sem.bin op x y with | some r => Res.ok r | none => Res.undef) := by
  unfold plainOf at ha hb
  simp only [binOp, ha, hb]
  cases sem.bin op x y <;> rfl

/-- plain and tainted operands never abort on unwrapping and denote themselves -/
theorem C16_unwrap_plain_tainted (x : Operand) (h : x.wrap ≠ .tvol) : plainOf x = some x.tv := by
  unfold plainOf unwrap
  cases hw : x.wrap <;> simp_all

/-- Comparisons: the value is the plain comparison; the wrapper is a hint as soon as data still in
sandbox memory is involved, a tainted bool otherwise -- never a plain bool. -/
theorem C16_compare (sem : PlainSem) (op : CmpSym) (a b : Operand) (x y : TV) (r : Bool) (w : CmpWrap)
    (ha : plainOf a = some x) (hb : plainOf b = some y) (h : compareOp sem op a b = Res.ok (r, w)) :
    sem.cmp op x y = some r ∧ w ≠ .plainBool ∧ (w = .hint ↔ (a.wrap = .tvol ∨ b.wrap = .tvol)) := by
  unfold plainOf at ha hb
  simp only [compareOp, ha, hb] at h
  cases hc : sem.cmp op x y with
  | none => simp [hc] at h
  | some v =>
    simp only [hc, Res.ok.injEq, Prod.mk.injEq] at h
    obtain ⟨rfl, rfl⟩ := h
    refine ⟨rfl, ?_, ?_⟩
    · split <;> simp
    · by_cases hh : a.wrap = .tvol ∨ b.wrap = .tvol <;> simp [hh]

/-- Logical operators `&&`, `||` (for EVERY interpretation `log` of the plain operators): the value is
the plain expression's on the underlying values and the result is a `tainted<bool>` -- the model has no
other wrapper for it; both operands are unwrapped. -/
theorem C16_logical (log : LogSym → TV → TV → Bool) (op : LogSym) (a b : Operand) (x y : TV)
    (ha : plainOf a = some x) (hb : plainOf b = some y) : logicalOp log op a b = Res.ok (log op x y) := by
  unfold plainOf at ha hb
  simp only [logicalOp, ha, hb]

/-- the executable rendering used by the correspondence check is the plain C++ meaning: each operand
counts as true iff it is non-zero (so `2 && 1` is true although `2 & 1` is 0) -/
theorem C16_cppLog (x y : TV) :
    (cppLog .land x y = true ↔ (x.val ≠ 0 ∧ y.val ≠ 0)) ∧ (cppLog .lor x y = true ↔ (x.val ≠ 0 ∨ y.val ≠ 0)) := by
  simp [cppLog]

/-- Unary operators. -/
theorem C16_unary (sem : PlainSem) (op : UnSym) (a : Operand) (x : TV) (ha : plainOf a = some x) :
    unaryOp sem op a = (match sem.un op x with | some r => Res.ok r | none => Res.undef) := by
  unfold plainOf at ha
  simp only [unaryOp, ha]
  cases sem.un op x <;> rfl

/-- compound assignment is the binary operator followed by the write-back into the left operand -/
theorem compound_eq {sem : PlainSem} {op : BinSym} {a b : Operand} {x y r : TV}
    (ha : plainOf a = some x) (hb : plainOf b = some y) (hr : sem.bin op x y = some r) :
    compound sem op a b = match writeBack a r with | .ok n => .ok (n, n) | .abort => .abort | .undef => .undef := by
  rw [compound, C16_value sem op a b x y ha hb, hr]
  rfl

/-- Compound assignment on a `tainted<T>` (application memory): the operand becomes, and the
expression yields, exactly the plain result. -/
theorem C16_update_tainted (sem : PlainSem) (op : BinSym) (a b : Operand) (x y r : TV) (hw : a.wrap ≠ .tvol)
    (ha : plainOf a = some x) (hb : plainOf b = some y) (hr : sem.bin op x y = some r) :
    compound sem op a b = Res.ok (r, r) := by
  rw [compound_eq ha hb hr, writeBack]
  cases h : a.wrap
  · rfl
  · rfl
  · exact absurd h hw

/-- Compound assignment on a `tainted_volatile<T>` (sandbox memory): the stored value is the plain
result when it fits the stored sandbox type, otherwise the operation aborts -- never a silently
different value. -/
theorem C16_update_tvol (sem : PlainSem) (op : BinSym) (a b : Operand) (x y r : TV) (hw : a.wrap = .tvol)
    (ha : plainOf a = some x) (hb : plainOf b = some y) (hr : sem.bin op x y = some r) :
    (∃ g, convertFund a.guest r.ty r.val = some g ∧ compound sem op a b = Res.ok (⟨a.tv.ty, g⟩, ⟨a.tv.ty, g⟩)) ∨
    (convertFund a.guest r.ty r.val = none ∧ compound sem op a b = Res.abort) := by
  rw [compound_eq ha hb hr, writeBack, hw]
  cases convertFund a.guest r.ty r.val with
  | none => exact .inr ⟨rfl, rfl⟩
  | some g => exact .inl ⟨g, rfl, rfl⟩

/-- Pre/post increment and decrement: the operand is updated through `+ 1` / `- 1`; the pre forms
yield the new value, the post forms the old one. -/
theorem C16_incdec_return (sem : PlainSem) (dec post : Bool) (a : Operand) (old : TV) (e n : TV)
    (ha : plainOf a = some old) (h : incDec sem dec post a = Res.ok (e, n)) :
    (∃ v, compound sem (if dec then .sub else .add) a (one a.guest) = Res.ok (v, n)) ∧
    e = (if post then old else n) := by
  unfold plainOf at ha
  simp only [incDec, ha] at h
  cases hc : compound sem (if dec then BinSym.sub else BinSym.add) a (one a.guest) with
  | abort => simp [hc] at h
  | undef => simp [hc] at h
  | ok p =>
    obtain ⟨v, n'⟩ := p
    simp only [hc, Res.ok.injEq, Prod.mk.injEq] at h
    obtain ⟨rfl, rfl⟩ := h
    exact ⟨⟨v, rfl⟩, rfl⟩

/-- same elements, any order (the order in which the macros are instantiated is irrelevant) -/
def sameElems {α : Type} [DecidableEq α] (a b : List α) : Bool :=
  a.length == b.length && a.all (· ∈ b) && b.all (· ∈ a)

/-- The operator tables of the source (regenerated from rlbox.hpp on every run): each macro is
instantiated with exactly these symbols, `PostIncDecOps` calls the pre-form of its own symbol,
`PreIncDecOps` steps by 1 through its own symbol, compound assignment goes through its own symbol. -/
theorem ops_tables_match :
    sameElems Generated.binaryOpValAndPtr [BinSym.add.sym, BinSym.sub.sym] = true ∧
    sameElems Generated.binaryOp ([BinSym.mul, .div, .mod, .xor, .band, .bor, .shl, .shr].map BinSym.sym) = true ∧
    sameElems Generated.compoundAssignmentOp ([BinSym.add, .sub, .mul, .div, .mod, .xor, .band, .bor, .shl, .shr].map BinSym.sym) = true ∧
    sameElems Generated.compareOp (([CmpSym.eq, .ne].map fun c => (c.sym, true)) ++ ([CmpSym.lt, .le, .gt, .ge].map fun c => (c.sym, false))) = true ∧
    sameElems Generated.unaryOp ["-", "~"] = true ∧
    sameElems Generated.preIncDecOps ["+", "-"] = true ∧ sameElems Generated.postIncDecOps ["+", "-"] = true ∧
    sameElems Generated.binaryOpWrappedRhs (([BinSym.add, .sub, .mul, .div, .mod, .xor, .band, .bor, .shl, .shr].map BinSym.sym) ++
                                   ([CmpSym.eq, .ne, .lt, .le, .gt, .ge].map CmpSym.sym)) = true ∧
    Generated.postIncDecUsesOwnSymbol = true ∧ Generated.preIncDecStep = ("opSymbol", 1) ∧
    Generated.compoundBody = "opSymbol" ∧
    sameElems Generated.booleanBinaryOp ["&&", "||"] = true ∧ sameElems Generated.booleanBinaryOpWrappedRhs ["&&", "||"] = true := by decide

/-! ## Floating-point operands (`FloatOps.lean`) -/

/-- `x++` / `x--` on a tainted floating-point value return the value the object held BEFORE the update --
not a value re-derived from the new one -- and store `x ± 1` rounded once; the pre forms return what they
store. -/
theorem C16_float_incdec (f : FloatTy) (dec : Bool) (x : Dy) :
    (fIncDec f true dec x).1 = x ∧
    (fIncDec f true dec x).2 = fbin f (if dec then .sub else .add) x Dy.one ∧
    (fIncDec f false dec x).1 = (fIncDec f false dec x).2 ∧
    (fIncDec f false dec x).2 = (fIncDec f true dec x).2 :=
  ⟨rfl, rfl, rfl, rfl⟩

/-- re-deriving the old value as `(x + 1) - 1` is NOT the same function: it differs for 0.1f, for 2^24, and
for anything tiny -/
theorem C16_float_rederive_differs :
    ¬ (fbin .float .sub (fbin .float .add ⟨13421773, 27⟩ Dy.one) Dy.one).same ⟨13421773, 27⟩ ∧
    ¬ (fbin .float .sub (fbin .float .add ⟨16777216, 0⟩ Dy.one) Dy.one).same ⟨16777216, 0⟩ ∧
    ¬ (fbin .double .sub (fbin .double .add ⟨1, 60⟩ Dy.one) Dy.one).same ⟨1, 60⟩ := by decide

/-- when operands are values of the result type and the exact result fits its significand, the wrapped
operator yields the exact result (no rounding anywhere) -/
theorem C16_float_exact (f : FloatTy) (op : FOp) (a b : Dy) (ha : a.num.natAbs < 2 ^ f.prec) (hb : b.num.natAbs < 2 ^ f.prec)
    (hr : (op.exact a b).num.natAbs < 2 ^ f.prec) : fbin f op a b = op.exact a b := by
  have ea : a.round f = a := by unfold Dy.round; rw [CastLemmas.intToFloat_exact f _ ha]
  have eb : b.round f = b := by unfold Dy.round; rw [CastLemmas.intToFloat_exact f _ hb]
  unfold fbin
  rw [ea, eb]
  unfold Dy.round
  rw [CastLemmas.intToFloat_exact f _ hr]

/-- `+` and `*` do not depend on the order of the operands (so neither on which side carries which wrapper) -/
theorem C16_float_comm (f : FloatTy) (a b : Dy) :
    fbin f .add a b = fbin f .add b a ∧ fbin f .mul a b = fbin f .mul b a := by
  simp [fbin, FOp.exact, Dy.add, Dy.mul, Dy.round, Int.add_comm, Int.mul_comm, Nat.add_comm]

/-- result type by the usual arithmetic conversions: the wider floating-point type; an integer operand is
converted to the floating-point type of the other side -/
theorem C16_float_result_type :
    fResTy (.flt .float) (.flt .double) = some .double ∧ fResTy (.flt .double) (.flt .float) = some .double ∧
    fResTy (.flt .float) .int = some .float ∧ fResTy .int (.flt .double) = some .double ∧ fResTy .int .int = none := by decide

/-- comparisons with a NaN operand: `==` (and `<`, `<=`, `>`, `>=`) false, `!=` true -- in particular `==` is NOT
"neither less nor greater" -/
theorem C16_float_nan_compare (op : FCmp) (x : FV) :
    fcmp op .nan x = (op == .ne) ∧ fcmp op x .nan = (op == .ne) := by
  constructor
  · simp [fcmp, FV.isNan]
  · cases x <;> simp [fcmp, FV.isNan]

/-- unary minus flips the sign of a zero and is an involution; the two zeros compare equal -/
theorem C16_float_neg_zero :
    FV.neg (.zero false) = .zero true ∧ (∀ a : FV, a.neg.neg = a) ∧ fcmp .eq (.zero false) (.zero true) = true := by
  refine ⟨rfl, fun a => ?_, by decide⟩
  cases a with
  | nan => rfl
  | inf n => simp [FV.neg]
  | zero n => simp [FV.neg]
  | fin d => simp [FV.neg, Dy.neg]

example : fcmp .lt (.fin ⟨-1, 1⟩) (.zero true) = true ∧ fcmp .ge (.inf false) (.fin ⟨7, 0⟩) = true ∧ fcmp .eq .nan .nan = false ∧
    fcmp .ne .nan (.fin ⟨1, 0⟩) = true := by decide

example : (fbin .float .add ⟨16777216, 0⟩ ⟨1, 0⟩).same ⟨16777216, 0⟩ ∧ (fbin .double .add ⟨16777216, 0⟩ ⟨1, 0⟩).same ⟨16777217, 0⟩ ∧
    (fbin .float .mul ⟨3, 1⟩ ⟨-5, 2⟩).same ⟨-15, 3⟩ ∧ (fIncDec .double true false ⟨1, 1⟩).2.same ⟨3, 1⟩ := by decide

/-- non-vacuity (with the executable C++ rendering): mixed wrappers and types -/
example : (match logicalOp cppLog .land ⟨.tainted, ⟨tInt, 2⟩, tInt⟩ ⟨.tvol, ⟨tInt, 1⟩, tInt⟩ with | .ok r => r | _ => false) = true := by decide
example : (match binOp cppSem .add ⟨.tvol, ⟨⟨false, 1, false⟩, 200⟩, ⟨false, 1, false⟩⟩ ⟨.plain, ⟨⟨true, 4, false⟩, 100⟩, tInt⟩ with
    | .ok r => r.val | _ => 0) = 300 := by decide
example : (match incDec cppSem true true ⟨.tainted, ⟨tInt, 10⟩, tInt⟩ with | .ok (e, n) => (e.val, n.val) | _ => (0, 0)) = (10, 9) := by decide
example : (match compound cppSem .add ⟨.tvol, ⟨⟨true, 8, false⟩, 2147483647⟩, ⟨true, 4, false⟩⟩ ⟨.plain, ⟨tInt, 1⟩, tInt⟩ with
    | .abort => true | _ => false) = true := by decide

end Rlbox.C16
