import RlboxModel.PtrOps
import RlboxModel.Props.C04
import RlboxModel.Props.C05
/-!
# C03 — Every tainted data pointer is null or points into its own sandbox
Property theorems only.
-/
namespace Rlbox.C03
open Rlbox

/-- the invariant: null, or inside the region of the sandbox it came from -/
def Inv (r : Region) (p : Nat) : Prop := p = 0 ∨ r.contains p

/-- Whatever bit pattern the guest supplies (result, callback argument, memory cell, array element,
struct field), the pointer the application obtains is null or inside the sandbox: for ALL
representations, not a sample. -/
theorem C03_from_guest (s : Sbx) (hs : C04.Sbx.wf s) (rep : Nat) : Inv s.region (toApp s rep) := by
  by_cases h : rep = 0
  · exact .inl (if_pos h)
  · exact .inr (toApp_contains h)

/-- the same through a memory cell (context-free translation from the cell's own address) -/
theorem C03_from_cell (s : Sbx) (hs : C04.Sbx.wf s) (cell rep : Nat) (hc : s.region.contains cell) :
    Inv s.region (ptrLoad s.region.k cell rep) := by
  rw [(C04.C04_cell_relative s hs cell hc rep 0).1]
  exact C03_from_guest s hs rep

/-- One derivation step keeps the invariant (designation steps under `fieldOk`). -/
theorem C03_step (s : Sbx) (hs : C04.Sbx.wf s) (p q : Nat) (op : POp) (hp : Inv s.region p)
    (hok : fieldOk s.region p op) (h : stepPtr s.region.k p op = some q) : Inv s.region q := by
  cases op with
  | arith f n st =>
    -- a null base aborts (`p ≠ 0`), any other base is inside and `ptrArith` keeps it there
    have h0 := (ptrArith_eq_some.1 h).2.1
    exact .inr (C05.C05_inside_region s.region hs.1 f p n st q (hp.resolve_left h0) h)
  | load rep =>
    obtain ⟨h0, h1⟩ := Option.ite_none_left_eq_some.1 h
    cases h1
    exact C03_from_cell s hs p rep (hp.resolve_left h0)
  | addrOf => cases h; exact hp
  | cast => cases h; exact hp
  | field off size =>
    cases h
    exact .inr (contains_add_mod hs.1 (hp.resolve_left hok.1) hok.2.1 hok.2.2)
  | elem i n stride =>
    obtain ⟨hi, rfl⟩ := Option.ite_some_none_eq_some.1 h
    have hlt : i.toNat * stride < n * stride := Nat.mul_lt_mul_of_pos_right (by omega) hok.2.1
    exact .inr (contains_add_mod hs.1 (hp.resolve_left hok.1) hlt hok.2.2)

/-- Chains of any length: from null or any in-region address, every derivation chain whose
designation steps are of wholly-inside aggregates ends null or inside the sandbox (no depth bound). -/
theorem C03_chain (s : Sbx) (hs : C04.Sbx.wf s) (ops : List POp) (p q : Nat) (hp : Inv s.region p)
    (hok : runOk s.region p ops) (h : runPtr s.region.k p ops = some q) : Inv s.region q := by
  induction ops generalizing p with
  | nil => cases h; exact hp
  | cons op ops ih =>
    obtain ⟨p1, hst, h⟩ := Option.bind_eq_some_iff.1 h
    simp only [runOk, hst] at hok
    exact ih p1 (C03_step s hs p p1 op hp hok.1 hst) hok.2 h

/-- Allocation: whatever the allocator inside the sandbox returns and however the backend translates
it, `malloc_in_sandbox` yields null or an address whose first and last element both lie inside the
region -- anything else aborts. -/
theorem C03_malloc (s : Sbx) (hs : C04.Sbx.wf s) (v count size p : Nat) (h : mallocIn s v count size = some p) :
    p = 0 ∨ (s.region.contains p ∧ s.region.contains ((p + (count - 1) * size) % W64)) := by
  obtain ⟨_, h⟩ := Option.ite_none_left_eq_some.1 h
  by_cases hv : v = 0
  · rw [if_pos hv] at h; exact .inl (Option.some.inj h).symm
  · rw [if_neg hv] at h
    -- the two checks: the start is inside, and the last element is in the same sandbox as the start
    obtain ⟨hin, h⟩ := Option.ite_none_left_eq_some.1 h
    obtain ⟨hsame, rfl⟩ := Option.ite_some_none_eq_some.1 h
    have hin := Decidable.not_not.1 hin
    exact .inr ⟨hin, (sameSbx_iff_contains s.region hs.1 _ _ hin).1 hsame⟩

example : mallocIn ⟨⟨16, 0x6a0000000000⟩, 4⟩ 0x8000 4 4 = some 0x6a0000008000 := by decide
example : mallocIn ⟨⟨16, 0x6a0000000000⟩, 4⟩ 0x10040 4 4 = none := by decide   -- wholly outside: refused
example : mallocIn ⟨⟨16, 0x6a0000000000⟩, 4⟩ 0xfff8 4 4 = none := by decide    -- straddles the end: refused

/-- Full statement without the side condition on designation steps. -/
def C03_full : Prop :=
  ∀ (s : Sbx), C04.Sbx.wf s → ∀ (ops : List POp) (p q : Nat), Inv s.region p →
    runPtr s.region.k p ops = some q → Inv s.region q

/-- It is false of the code as it is (finding F7): designating a member of an aggregate that
straddles the end of the region (or of a null aggregate) yields an address outside the region,
without a check. Witness: a 12-byte struct at the last 4 bytes of the region, member at offset 8. -/
theorem C03_designation_witness : ¬ C03_full := by
  intro h
  have := h ⟨⟨16, 0x6a0000000000⟩, 4⟩ (by refine ⟨⟨by decide, by decide, by decide⟩, by decide, by decide⟩)
    [.field 8 12] 0x6a000000fffc 0x6a0000010004 (Or.inr (by decide)) (by decide)
  revert this; unfold Inv Region.contains; decide

example : runPtr 16 0x6a0000000010 [.arith .add 3 4, .cast, .load 0x12345, .field 4 12, .addrOf] = some 0x6a0000002349 := by decide
example : stepPtr 16 0 (.arith .index 5 4) = none := by decide

end Rlbox.C03
