import RlboxModel.Threads
import RlboxModel.Generated
import RlboxModel.Lemmas.General
/-!
# C18 — Distinct sandboxes can be used from distinct threads without interference
Property theorems only.
-/
namespace Rlbox.C18
open Rlbox Rlbox.Thr

/-- what thread `t` can see of the world: its own instances, its own thread record, and which of
its own instances are in the live list -/
def Sim {σ : Type} (owner : Iid → Tid) (t : Tid) (w w' : World σ) : Prop :=
  (∀ i, owner i = t → w.inst i = w'.inst i) ∧ w.cur t = w'.cur t ∧ (∀ i, owner i = t → (i ∈ w.reg ↔ i ∈ w'.reg)) ∧
  w.reg.Nodup ∧ w'.reg.Nodup

/-- with pairwise disjoint regions, an address inside instance `i` is found iff `i` is live, whatever
else the list contains and in whatever order -/
theorem find_own (region : Iid → Region) (hd : Disjoint region) (i off : Nat) (ho : off < 2 ^ (region i).k) (l : List Iid) :
    l.find? (fun j => decide ((region j).contains ((region i).base + off))) = if i ∈ l then some i else none := by
  -- the address lies in the region of `i` and of no other instance
  have own : (region i).contains ((region i).base + off) := by unfold Region.contains; omega
  have only : ∀ j, decide ((region j).contains ((region i).base + off)) = true → j = i := fun j h =>
    Decidable.byContradiction fun ne => by have := hd j i ne; have := of_decide_eq_true h; unfold Region.contains at this; omega
  split
  · next hi => exact (List.find?_eq_some_iff_of_unique fun a _ b _ pa pb => (only a pa).trans (only b pb).symm).2 ⟨hi, decide_eq_true own⟩
  · next hi => exact List.find?_eq_none.2 fun j hj pj => hi (only j pj ▸ hj)

/-- `regAdd` makes `i` live and changes nothing else -/
theorem mem_regAdd (i j : Iid) (l : List Iid) : j ∈ (if i ∈ l then l else l ++ [i]) ↔ j = i ∨ j ∈ l := by
  split
  · exact ⟨Or.inr, fun h => h.elim (· ▸ ‹i ∈ l›) id⟩
  · simp [or_comm]

/-- the live list never holds an instance twice -/
theorem step_nodup {σ : Type} (region : Iid → Region) (w : World σ) (t : Tid) (st : Step σ) (h : w.reg.Nodup) :
    (step region w t st).1.reg.Nodup := by
  cases st with
  | regAdd i =>
    simp only [step]
    split
    · exact h
    · next hn => exact List.nodup_concat h hn
  | regDel i => exact List.Nodup.erase i h
  | find i off => exact h
  | localOp i f => exact h
  | setCur v => exact h
  | callback => exact h

/-- a step leaves alone every instance it does not name: its private state and whether it is live -/
theorem step_frame {σ : Type} (region : Iid → Region) (w : World σ) (u : Tid) (st : Step σ) {j : Iid} (hj : j ∉ st.ids) :
    (step region w u st).1.inst j = w.inst j ∧ (j ∈ (step region w u st).1.reg ↔ j ∈ w.reg) := by
  cases st with
  | regAdd i =>
    have : j ≠ i := by simpa [Step.ids] using hj
    simp [step, mem_regAdd, this]
  | regDel i =>
    have : j ≠ i := by simpa [Step.ids] using hj
    simp [step, List.mem_erase_of_ne this]
  | localOp i f =>
    have : j ≠ i := by simpa [Step.ids] using hj
    simp [step, upd, this]
  | _ => simp [step]

/-- and the record of every other thread -/
theorem step_cur {σ : Type} (region : Iid → Region) (w : World σ) {t u : Tid} (hut : u ≠ t) (st : Step σ) :
    (step region w u st).1.cur t = w.cur t := by
  cases st <;> simp [step, upd, Ne.symm hut]

theorem step_other {σ : Type} (owner : Iid → Tid) (region : Iid → Region) (t u : Tid) (hut : u ≠ t) (st : Step σ)
    (hown : ∀ i ∈ st.ids, owner i = u) (w w' : World σ) (h : Sim owner t w w') :
    Sim owner t (step region w u st).1 w' := by
  obtain ⟨h1, h2, h3, n1, n2⟩ := h
  have hj : ∀ j, owner j = t → j ∉ st.ids := fun j e hm => hut ((hown j hm).symm.trans e)
  exact ⟨fun j e => (step_frame region w u st (hj j e)).1.trans (h1 j e), (step_cur region w hut st).trans h2,
    fun j e => (step_frame region w u st (hj j e)).2.trans (h3 j e), step_nodup region w u st n1, n2⟩

theorem step_own {σ : Type} (owner : Iid → Tid) (region : Iid → Region) (hd : Disjoint region) (t : Tid) (st : Step σ)
    (hown : ∀ i ∈ st.ids, owner i = t) (hoff : ∀ i off, st = .find i off → off < 2 ^ (region i).k)
    (w w' : World σ) (h : Sim owner t w w') :
    Sim owner t (step region w t st).1 (step region w' t st).1 ∧ (step region w t st).2 = (step region w' t st).2 := by
  obtain ⟨h1, h2, h3, n1, n2⟩ := h
  have nd1 := step_nodup region w t st n1
  have nd2 := step_nodup region w' t st n2
  cases st with
  | regAdd i => exact ⟨⟨h1, h2, fun j hj => by simp only [step, mem_regAdd, h3 j hj], nd1, nd2⟩, rfl⟩
  | regDel i =>
    exact ⟨⟨h1, h2, fun j hj => by simp only [step, n1.mem_erase_iff, n2.mem_erase_iff, h3 j hj], nd1, nd2⟩, rfl⟩
  | find i off =>
    have hi : owner i = t := hown i (by simp [Step.ids])
    refine ⟨⟨h1, h2, h3, n1, n2⟩, ?_⟩
    simp only [step, find_own region hd i off (hoff i off rfl), h3 i hi]
  | localOp i f =>
    have he := h1 i (hown i (by simp [Step.ids]))
    refine ⟨⟨fun j hj => ?_, h2, h3, n1, n2⟩, by simp only [step, he]⟩
    simp only [step, upd, he]
    split
    · rfl
    · exact h1 j hj
  | setCur v => exact ⟨⟨h1, by simp [step, upd], h3, n1, n2⟩, rfl⟩
  | callback => exact ⟨⟨h1, h2, h3, n1, n2⟩, by simp only [step, h2]⟩

/-- **C18 (logic)**: for EVERY interleaving of any number of threads, each operating on its own
instances (pairwise disjoint regions) and looking up addresses inside its own regions, each thread
observes exactly what it observes when its steps run alone -- for arbitrary instance-private
operations, overlapping creation/destruction by the other threads, and any order of the live list. -/
theorem C18_noninterference {σ : Type} (owner : Iid → Tid) (region : Iid → Region) (hd : Disjoint region) (t : Tid) :
    ∀ (sched : List (Tid × Step σ)) (w w' : World σ), Owned owner region sched → Sim owner t w w' →
      obsOf t (runSched region w sched).2 = (runSched region w' (sched.filter (·.1 == t))).2.map (·.2) := by
  intro sched
  induction sched with
  | nil => intro w w' _ _; rfl
  | cons p rest ih =>
    intro w w' ho hs
    obtain ⟨u, st⟩ := p
    have hp := ho (u, st) List.mem_cons_self
    have hrest : Owned owner region rest := fun q hq => ho q (List.mem_cons_of_mem _ hq)
    by_cases hut : u = t
    · subst hut
      obtain ⟨hs', hobs⟩ := step_own owner region hd u st hp.1 hp.2 w w' hs
      have := ih (step region w u st).1 (step region w' u st).1 hrest hs'
      simp only [runSched, obsOf, List.filter_cons, beq_self_eq_true, if_true, List.map_cons] at this ⊢
      rw [hobs, this]
    · have hs' := step_other owner region t u hut st hp.1 w w' hs
      have := ih (step region w u st).1 w' hrest hs'
      have hb : (u == t) = false := by simpa using hut
      simp only [runSched, obsOf, List.filter_cons, hb] at this ⊢
      simpa [obsOf] using this

/-- in particular a callback always sees the sandbox its own thread entered, whatever the other
threads enter or leave meanwhile (this is what `thread_local thread_data` provides) -/
theorem C18_tls {σ : Type} (region : Iid → Region) (w : World σ) (t u : Tid) (hut : u ≠ t) (v : Option Iid) :
    (step region (step region w u (.setCur v)).1 t .callback).2 = (step region w t .callback).2 := by
  have : ¬ t = u := fun e => hut e.symm
  simp [step, upd, this]

/-! ## The source facts the atomic-step model rests on (regenerated from /repo on every run) -/

/-- every write to the live-sandbox list is inside a UNIQUE guard of its lock, every read inside a
SHARED or UNIQUE guard; the list is one static per backend type; the status word is atomic; the
backends' current-sandbox record is `thread_local` -/
theorem registry_accesses_guarded :
    Generated.registryAccesses.all (fun a => if a.1 == "write" then a.2 == "UNIQUE" else a.2 == "SHARED" || a.2 == "UNIQUE") = true ∧
    Generated.registryAccesses.any (fun a => a.1 == "write") = true ∧
    Generated.registryAccesses.any (fun a => a.1 == "read" && a.2 == "SHARED") = true := by decide
theorem thread_data_is_thread_local : Generated.threadDataThreadLocal = true := by decide
theorem status_is_atomic : Generated.statusAtomic = true := by decide
theorem sandbox_list_is_static : Generated.sandboxListStatic = true := by decide
/-- `find` is ONE atomic step: every entry of the live list is asked "is this address yours?" while the guard on the list
is held, so an instance cannot be torn down by its owner in the middle of another thread's walk -/
theorem find_walk_atomic : Generated.findQueriesInsideGuard = true := by decide
/-- `regDel` is ONE atomic step: the lookup of the instance in the live list and its removal happen
inside the same UNIQUE guard (no window in which another thread's create/destroy can shift or
reallocate the list between the two) -/
theorem destroy_find_erase_atomic : Generated.destroyFindAndEraseInOneGuard = true := by decide
/-- an instance is in the live list only while its backend memory exists: it is unlinked before the
backend is torn down and linked after the backend was created (so `find` never returns an instance
whose region is gone or may already belong to another thread's new sandbox) -/
theorem live_list_within_backend_lifetime :
    Generated.destroyUnlinksBeforeBackendTeardown = true ∧ Generated.createLinksAfterBackendCreate = true := by decide

/-- non-vacuity: two threads, two instances, thread 1 creates/destroys while thread 0 looks up -/
def exRegion (i : Nat) : Region := ⟨16, 0x6a0000000000 + i * 0x400000000⟩
def exSched : List (Tid × Step Nat) :=
  [(0, .regAdd 0), (1, .regAdd 1), (0, .find 0 5), (1, .regDel 1), (0, .setCur (some 0)), (1, .setCur (some 1)), (0, .callback), (0, .find 0 7),
   (1, .localOp 1 (fun s => (s + 1, s))), (0, .localOp 0 (fun s => (s + 10, s)))]
example : obsOf 0 (runSched exRegion ⟨[], fun _ => 0, fun _ => none⟩ exSched).2 = [none, some 1, none, some 1, some 1, some 0] := by decide

end Rlbox.C18
