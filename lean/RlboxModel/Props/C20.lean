import RlboxModel.Casts
import RlboxModel.Props.C04
import RlboxModel.Props.C06Core
import RlboxModel.Lemmas.CastLemmas
/-!
# C20 — Opaque wrappers and sandbox casts preserve bits, designation and taint
Property theorems only.
-/
namespace Rlbox.C20
open Rlbox

/-- tainted → opaque → tainted yields an identical bit image, for every type (any image) -/
theorem C20_opaque_rt (img : List Nat) : fromOpaque (toOpaque img) = img := rfl

/-- `sandbox_static_cast` of a tainted value holds exactly what the C++ cast yields on the
underlying value -/
theorem C20_cast_value (abi : Abi) (to fr : BaseTy) (v : Int) :
    sandboxStaticCast abi to fr (.tainted v) = some (to.app.cast v) := rfl

/-- ... and of a value still in sandbox memory: the value the sandbox ABI stores (converted without
loss by C06, or the load aborts), then the same cast -/
theorem C20_cast_value_tvol (abi : Abi) (habi : abi.wf) (to fr : BaseTy) (g : Int) (hg : (fr.guest abi).inRange g) :
    (sandboxStaticCast abi to fr (.tvol g) = some (to.app.cast g) ∧ fr.app.inRange g) ∨
    (sandboxStaticCast abi to fr (.tvol g) = none ∧ ¬ fr.app.inRange g) := by
  simp only [sandboxStaticCast, srcToTainted, C06.toApplication_eq habi hg]
  by_cases hr : fr.app.inRange g
  · rw [if_pos hr]; exact .inl ⟨rfl, hr⟩
  · rw [if_neg hr]; exact .inr ⟨rfl, hr⟩

/-- a value in range of the target is unchanged by the cast (the cast only changes what the C++
cast changes) -/
theorem C20_cast_identity_in_range (to : BaseTy) (v : Int) (h : to.app.inRange v) (hb : to ≠ .bool) : to.app.cast v = v :=
  IntTy.cast_of_inRange to.app_wf h

/-- pointer casts never change the designated sandbox address: a tainted source keeps its address;
a source stored in sandbox memory of sandbox `s` is translated relative to `s` (the cell's own
sandbox), exactly like an ordinary load of that cell -/
theorem C20_cast_addr (s : Sbx) (hs : C04.Sbx.wf s) :
    (∀ a, sandboxPtrCast s.region.k (.tainted a) = a) ∧
    (∀ cell rep, s.region.contains cell → sandboxPtrCast s.region.k (.tvol cell rep) = toApp s rep) := by
  refine ⟨fun _ => rfl, fun cell rep hc => ?_⟩
  exact (C04.C04_cell_relative s hs cell hc rep 0).1

/-- `sandbox_static_cast<F>` of an integer to a floating-point type holds what the C++ cast yields: the
source value (loaded and ABI-converted first when it lives in sandbox memory), rounded ONCE to the target's
precision -/
theorem C20_castf_value (abi : Abi) (to : FloatTy) (fr : BaseTy) (v : Int) :
    sandboxStaticCastIF abi to fr (.tainted v) = some (intToFloat to v) ∧
    ∀ g, sandboxStaticCastIF abi to fr (.tvol g) = (toApplication abi fr g).map (intToFloat to) :=
  ⟨rfl, fun _ => rfl⟩

/-- what "the C++ cast" is: integers that fit the significand are unchanged ... -/
theorem C20_castf_exact (f : FloatTy) (v : Int) (h : v.natAbs < 2 ^ f.prec) : intToFloat f v = v :=
  CastLemmas.intToFloat_exact f v h

/-- ... and any other integer becomes a neighbouring multiple of the unit in the last place `2^sh`, at most
half a unit away (round to nearest; `roundSig` resolves ties to the even significand) -/
theorem C20_castf_nearest (f : FloatTy) (n : Nat) (h : ¬ n < 2 ^ f.prec) :
    2 ^ (bitLen n - f.prec) ∣ roundSig f.prec n ∧
    roundSig f.prec n ≤ n + 2 ^ (bitLen n - f.prec - 1) ∧ n ≤ roundSig f.prec n + 2 ^ (bitLen n - f.prec - 1) :=
  CastLemmas.roundSig_nearest f.prec n h

/-- one rounding, not two: going through `double` first gives a different `float` for some 64-bit integers -/
theorem C20_castf_single_rounding :
    intToFloat .float (intToFloat .double (2 ^ 60 + 2 ^ 36 + 1)) ≠ intToFloat .float (2 ^ 60 + 2 ^ 36 + 1) := by decide

/-- floating-point to integer: the fraction is discarded toward zero (the magnitude is the integer part of the
magnitude, the sign is kept), and the cast is defined exactly when that integer is in range of the target -/
theorem C20_float_to_int (to : BaseTy) (hb : to ≠ .bool) (x : Dy) :
    x.trunc.natAbs = x.num.natAbs / 2 ^ x.k ∧ (0 ≤ x.num → 0 ≤ x.trunc) ∧ (x.num ≤ 0 → x.trunc ≤ 0) ∧
    floatToInt to x = (if to.app.inRange x.trunc then some x.trunc else none) := by
  have h0 : x.num = 0 → x.num.natAbs / 2 ^ x.k = 0 := by intro h; simp [h]
  refine ⟨?_, ?_, ?_, by simp [floatToInt, hb]⟩ <;> unfold Dy.trunc <;>
    generalize x.num.natAbs / 2 ^ x.k = q at * <;> split <;> omega

example : intToFloat .float 16777217 = 16777216 ∧ intToFloat .float 16777219 = 16777220 ∧ intToFloat .double (2^63 - 1) = 2^63 := by decide
example : floatToInt .int ⟨-7, 1⟩ = some (-3) ∧ floatToInt .uchar ⟨1025, 2⟩ = none ∧ floatToInt .bool ⟨1, 5⟩ = some 1 := by decide

/-- class pointers: a static cast to a non-first base moves the designated address by exactly the base's offset and back
again on the way down; null stays null; the first base and a reinterpret cast do not move it -/
theorem C20_static_cast_class_ptr (d : Nat) (a : Nat) (ha : a ≠ 0) :
    staticCastClassPtr d a = a + d ∧ staticCastClassPtr (-(d : Int)) (staticCastClassPtr d a) = a ∧
    staticCastClassPtr d 0 = 0 ∧ staticCastClassPtr 0 a = a := by
  have h1 : staticCastClassPtr d a = a + d := by unfold staticCastClassPtr; simp [ha]; omega
  refine ⟨h1, ?_, by simp [staticCastClassPtr], by unfold staticCastClassPtr; simp [ha]⟩
  rw [h1]; unfold staticCastClassPtr
  have : a + d ≠ 0 := by omega
  rw [if_neg this]
  omega

example : sandboxStaticCast abiA .uchar .int (.tainted 300) = some 44 := by decide
example : sandboxStaticCast abiA .schar .ulong (.tvol 4294967295) = some (-1) := by decide
example : sandboxPtrCast 16 (.tvol 0x6a0000000010 0x100) = 0x6a0000000100 := by decide

end Rlbox.C20
