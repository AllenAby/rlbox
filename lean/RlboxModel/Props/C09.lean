import RlboxModel.Lemmas.SnapLemmas
/-!
# C09 — Verified copies are application-memory snapshots: no check/use window
Property theorems only.  Every statement is for EVERY adversary (`Adv`: an arbitrary rewrite of the
whole sandbox memory before every single byte read), every initial memory and every pointer source.
-/
namespace Rlbox.C09
open Rlbox Rlbox.Snap

/-- **Snapshot**: the outcome of ANY program over sandbox reads -- in particular of every
`copy_and_verify` variant below -- depends only on what the adversary did before the reads that
were actually performed.  Whatever the sandbox writes after the last read (while the verifier runs,
or afterwards) cannot change what the verifier received, for every adversary. -/
theorem C09_snapshot {α : Type} (p : Prog α) (adv adv' : Adv) :
    ∀ s, (∀ n, s.clock ≤ n → n < (run adv p s).2.clock → adv' n = adv n) → run adv' p s = run adv p s := by
  induction p with
  | ret a => intro s _; rfl
  | read addr k ih =>
    intro s h
    -- the first read is event number `s.clock`, before the final clock; what follows it runs from `s.clock + 1`
    have h0 : adv' s.clock = adv s.clock :=
      h s.clock (Nat.le_refl _) (run_clock_mono adv (k (adv s.clock s.mem addr)) ⟨adv s.clock s.mem, s.clock + 1⟩)
    simp only [run, h0]
    exact ih _ _ fun n hn1 hn2 => h n (Nat.le_of_succ_le hn1) hn2

/-- the variants are such programs: what they return is a value, not a reference into the sandbox -/
def variants (src : PSrc) : List (Prog Out) :=
  [cavScalar 0x300 4, cavPtr src 4, cavStruct src 12, cavRange src 4 4, cavStrU src, cavStrS src, cavAddr src, cavBuf src 16, copyMem 0x100 6]

theorem C09_snapshot_variants (src : PSrc) (adv adv' : Adv) (s : St) :
    ∀ p ∈ variants src, (∀ n, s.clock ≤ n → n < (run adv p s).2.clock → adv' n = adv n) → (run adv' p s).1 = (run adv p s).1 := by
  intro p _ h
  rw [C09_snapshot p adv adv' s h]

theorem run_pure {α : Type} (adv : Adv) (a : α) (s : St) : run adv (pure a : Prog α) s = (a, s) := rfl

/-- **Strings** (`unique_ptr<char[]>` verifier): for every adversary, a delivered string has a NUL as
the last byte of its own buffer (so it is terminated inside the buffer), and the buffer is exactly
as long as an extent `[p, p + length)` that was range-checked (never longer than the checked length). -/
theorem C09_string (adv : Adv) (src : PSrc) (s : St) (bs : List Nat)
    (h : (run adv (cavStrU src) s).1 = .val bs) :
    bs ≠ [] ∧ bs.getLast? = some 0 ∧ (∃ i, i < bs.length ∧ bs[i]? = some 0) ∧
    (∃ p, p ≠ 0 ∧ p + bs.length ≤ rsize) := by
  apply Post.val h
  unfold cavStrU
  refine Post.bind' fun start => ?_
  split
  · exact Post.pure nofun
  · refine Post.bind' fun r => ?_
    split
    · exact Post.pure nofun
    · next len =>
      refine Post.bind (rangeHelper_post adv src (len + 1) 1) fun o ho => ?_
      split
      · next cs =>
        refine Post.pure fun bs h => ?_
        cases h
        obtain ⟨h1, _, p, hp0, h3⟩ := ho cs rfl
        have hlen : (setLast cs 0).length = len + 1 := by simp [setLast]; omega
        have hlast : (setLast cs 0).getLast? = some 0 := by simp [setLast]
        -- the NUL that ends the buffer is the NUL inside it
        exact ⟨fun hnil => by simp [hnil] at hlen, hlast,
          ⟨len, by omega, by rw [← hlast, List.getLast?_eq_getElem?, hlen]; rfl⟩, ⟨p, hp0, by omega⟩⟩
      · next hno => exact Post.pure fun bs h => (hno bs h).elim

/-- **Strings** (`std::string` verifier): the delivered string plus its terminator is exactly an extent
`[q, q + length + 1)` that was range-checked, for every adversary -- never longer than the checked length. -/
theorem C09_string_std (adv : Adv) (src : PSrc) (s : St) (bs : List Nat)
    (h : (run adv (cavStrS src) s).1 = .val bs) : (∃ q, q ≠ 0 ∧ q + (bs.length + 1) ≤ rsize) ∨ bs = [] := by
  apply Post.val h
  unfold cavStrS
  refine Post.bind' fun start => ?_
  split
  · exact Post.pure fun bs h => by cases h; exact Or.inr rfl
  · refine Post.bind' fun r => ?_
    split
    · exact Post.pure nofun
    · next len =>
      refine Post.bind (verifyRange_post adv src (len + 1) 1) fun v hv => ?_
      split
      · exact Post.pure nofun
      · exact Post.pure fun bs h => by cases h; exact Or.inr rfl
      · next q hq0 =>
        refine Post.bind (readBytes_post adv len q) fun l hl => Post.pure fun bs h => ?_
        cases h
        have := (hv q rfl).2 (by simpa using hq0)
        exact Or.inl ⟨q, by simpa using hq0, by omega⟩

/-- **Ranges**: a delivered buffer holds exactly `count` elements -- never sized from a second look
at the sandbox -- and `count` elements fit the sandbox. -/
theorem C09_range (adv : Adv) (src : PSrc) (count elSize : Nat) (s : St) (bs : List Nat)
    (h : (run adv (cavRange src count elSize) s).1 = .val bs) :
    bs.length = count * elSize ∧ ∃ p, p ≠ 0 ∧ p + count * elSize ≤ rsize := by
  have := rangeHelper_post adv src count elSize s bs h
  exact ⟨this.1, this.2.2⟩

/-- **Pointer to a fundamental value**: the pointer is fetched once; a null pointer reaches the
verifier as `nullptr` and is never dereferenced, whatever the sandbox does to the pointer cell
afterwards. -/
theorem C09_ptr (adv : Adv) (src : PSrc) (n : Nat) (s : St) :
    let p := (run adv (fetch src) s).1
    (p = 0 → (run adv (cavPtr src n) s).1 = .null) ∧
    (p ≠ 0 → p + n ≤ rsize → ∃ bs, (run adv (cavPtr src n) s).1 = .val bs ∧ bs.length = n ∧
        bs = (run adv (readBytes p n) (run adv (fetch src) s).2).1) := by
  intro p
  rw [cavPtr, run_bind]
  refine ⟨fun hp => ?_, fun hp hr => ?_⟩
  · rw [if_pos hp]; rfl
  · rw [if_neg hp, if_neg (not_not_intro hr), run_bind]
    exact ⟨_, rfl, readBytes_post adv n p _, rfl⟩

/-- non-vacuity: "hello" at 0x100; an adversary that removes the terminator after the length was
taken still yields a terminated 6-byte buffer -/
def exMem : Mem := fun a => if a = 0x100 then 104 else if a = 0x101 then 101 else if a = 0x102 then 108 else if a = 0x103 then 108
  else if a = 0x104 then 111 else if a = 0x105 then 0 else if a = 0x106 then 70 else 0
def exAdv : Adv := fun n m => if n = 6 then (fun a => if a = 0x105 then 88 else m a) else m
example : (run exAdv (cavStrU (.app 0x100)) ⟨exMem, 0⟩).1 = .val [104, 101, 108, 108, 111, 0] := by decide
example : (run (fun _ m => m) (cavStrU (.app 0x100)) ⟨exMem, 0⟩).2.clock = 12 := by decide

end Rlbox.C09
