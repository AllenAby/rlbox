import RlboxModel.Lemmas.Arith
/-!
# C04 — Pointer representation conversion is faithful, null-preserving and per-sandbox
Property theorems only.
-/
namespace Rlbox.C04
open Rlbox

/-- a sandbox whose guest pointer type can represent every offset of its region -/
def Sbx.wf (s : Sbx) : Prop :=
  s.region.wf ∧ s.region.k ≤ 8 * s.ptrBytes ∧ (s.ptrBytes = 2 ∨ s.ptrBytes = 4 ∨ s.ptrBytes = 8)

/-- address → representation → address is the identity for every in-region address except the
first byte (whose representation is 0, i.e. null inside the sandbox). -/
theorem C04_rt_addr (s : Sbx) (hs : Sbx.wf s) (a : Nat) (ha : s.region.contains a) (hne : a ≠ s.region.base) :
    toApp s (toGuest s a) = a := by
  have h1 := ha.1; have h2 := ha.2
  rw [toGuest_of_contains hs.1 hs.2.1 ha, toApp, if_neg (by omega), Nat.mod_eq_of_lt (by omega)]
  omega

/-- representation → address → representation is the identity for every non-null canonical
representation (offsets 1 .. 2^k - 1). -/
theorem C04_rt_rep (s : Sbx) (hs : Sbx.wf s) (r : Nat) (h0 : r ≠ 0) (hr : r < 2 ^ s.region.k) :
    toGuest s (toApp s r) = r := by
  rw [toGuest_of_contains hs.1 hs.2.1 (toApp_contains h0), toApp, if_neg h0, Nat.mod_eq_of_lt hr,
    Nat.add_sub_cancel_left]

/-- null ↔ 0 on all four entry points (the core short-circuits before the backend is asked) -/
theorem C04_null (s : Sbx) (k pb ex : Nat) :
    toApp s 0 = 0 ∧ toGuest s 0 = 0 ∧ toAppNoCtx k ex 0 = 0 ∧ toGuestNoCtx k pb ex 0 = 0 := by
  simp [toApp, toGuest, toAppNoCtx, toGuestNoCtx]

/-- so every pointer a well-typed application value may hold (`WT`: null, or inside and not the first byte)
survives address → representation → address -/
theorem rt_addr_or_null (s : Sbx) (hs : Sbx.wf s) (a : Nat) (h : a = 0 ∨ (s.region.contains a ∧ a ≠ s.region.base)) :
    toApp s (toGuest s a) = a := by
  rcases h with rfl | ⟨h1, h2⟩
  · simp [toApp, toGuest]
  · exact C04_rt_addr s hs a h1 h2

/-- a non-null representation never becomes null and a non-null in-region address (other than the
first byte) never becomes 0 -/
theorem C04_nonnull (s : Sbx) (hs : Sbx.wf s) (r : Nat) (h0 : r ≠ 0) : toApp s r ≠ 0 := by
  exact (toApp_contains h0).ne_zero hs.1

/-- The context-free entry points, given an example address inside sandbox `s`, translate exactly
like the entry points with context on `s` -- whatever other sandboxes are alive. -/
theorem C04_noctx_agrees (s : Sbx) (hs : Sbx.wf s) (ex : Nat) (hex : s.region.contains ex) (r a : Nat) :
    toAppNoCtx s.region.k ex r = toApp s r ∧ toGuestNoCtx s.region.k s.ptrBytes ex a = toGuest s a := by
  have hb := baseOfExample_eq s.region hs.1 ex hex
  simp [toAppNoCtx, toGuestNoCtx, toApp, toGuest, hb]

/-- loads and stores of pointer cells use the cell's own address as example, hence translate
relative to the sandbox that owns the cell -/
theorem C04_cell_relative (s : Sbx) (hs : Sbx.wf s) (cell : Nat) (hc : s.region.contains cell) (r a : Nat) :
    ptrLoad s.region.k cell r = toApp s r ∧ ptrStore s.region.k s.ptrBytes cell a = toGuest s a :=
  C04_noctx_agrees s hs cell hc r a

/-- regions of the live sandboxes are pairwise disjoint -/
def Disjoint (reg : List Sbx) : Prop :=
  reg.Pairwise fun s1 s2 => ∀ x, ¬ (s1.region.contains x ∧ s2.region.contains x)

/-- With any number of live sandboxes with pairwise disjoint regions, in any registry order, the
sandbox found from an example address is the one whose region contains it. -/
theorem C04_find_own (reg : List Sbx) (hd : Disjoint reg) (s : Sbx) (hs : s ∈ reg) (ex : Nat)
    (hex : s.region.contains ex) : findSandbox reg ex = some s := by
  unfold findSandbox
  induction reg with
  | nil => cases hs
  | cons s0 rest ih =>
    unfold Disjoint at hd
    rw [List.pairwise_cons] at hd
    rw [List.find?_cons]
    by_cases h0 : s0.region.contains ex
    · simp only [h0, decide_true]
      rcases List.mem_cons.1 hs with rfl | hm
      · rfl
      · exact absurd ⟨h0, hex⟩ (hd.1 s hm ex)
    · simp only [h0, decide_false]
      rcases List.mem_cons.1 hs with rfl | hm
      · exact absurd hex h0
      · exact ih hd.2 hm

theorem C04_find_none (reg : List Sbx) (ex : Nat) (h : ∀ s ∈ reg, ¬ s.region.contains ex) : findSandbox reg ex = none := by
  unfold findSandbox
  rw [List.find?_eq_none]
  intro s hs; simpa using h s hs

/-- non-vacuity on the verification backend's geometry (K = 16, 32-bit guest pointers, two slots) -/
example :
    let s0 : Sbx := ⟨⟨16, 0x6a0000000000⟩, 4⟩
    let s1 : Sbx := ⟨⟨16, 0x6a0400000000⟩, 4⟩
    Sbx.wf s0 ∧ toGuest s0 0x6a000000ffff = 0xffff ∧ toApp s1 0x12345 = 0x6a0400002345 ∧
    findSandbox [s0, s1] 0x6a0400000010 = some s1 ∧ ptrStore 16 4 0x6a0400000010 0x6a0400000abc = 0xabc := by
  refine ⟨⟨⟨by decide, by decide, by decide⟩, by decide, by decide⟩, by decide, by decide, by decide, by decide⟩

/-- Function pointers: null and only null is represented by 0, in both directions, with and without
the sandbox context; a representation that designates a library function or a callback entry point
round-trips. (`nlib < cbBase`: the two index ranges of the backend's table are disjoint.) -/
theorem C04_fn_null (nlib cbBase ncb : Nat) :
    fnToApp nlib cbBase ncb 0 = .null ∧ fnToGuest cbBase .null = some 0 := ⟨rfl, rfl⟩

theorem C04_fn_nonnull (nlib cbBase ncb rep : Nat) (h : rep ≠ 0) : fnToApp nlib cbBase ncb rep ≠ .null := by
  unfold fnToApp backendFn
  simp only [h, if_false]
  split
  · intro e; cases e
  · split <;> intro e <;> cases e

theorem C04_fn_roundtrip (nlib cbBase ncb rep : Nat) (hd : nlib < cbBase)
    (hv : rep = 0 ∨ (1 ≤ rep ∧ rep ≤ nlib) ∨ (cbBase ≤ rep ∧ rep < cbBase + ncb)) :
    fnToGuest cbBase (fnToApp nlib cbBase ncb rep) = some rep := by
  unfold fnToApp backendFn
  rcases hv with h | h | h
  · simp [h, fnToGuest]
  · have h0 : rep ≠ 0 := by omega
    have hc : ¬ (cbBase ≤ rep ∧ rep < cbBase + ncb) := by omega
    simp only [h0, if_false, hc, h, and_self, if_true, fnToGuest]
    congr 1; omega
  · have h0 : rep ≠ 0 := by omega
    simp only [h0, if_false, h, and_self, if_true, fnToGuest]
    congr 1; omega

example : fnToApp 3 0x4000 8 2 = .lib 1 ∧ fnToApp 3 0x4000 8 0x4001 = .cb 1 ∧ fnToApp 3 0x4000 8 77 = .other := by decide

end Rlbox.C04
