import RlboxModel.Lemmas.StructLemmas
import RlboxModel.Props.C04
import RlboxModel.Props.C06Core
/-!
# C08 — Struct marshalling follows the sandbox ABI layout and round-trips every field
Property theorems only, the nine about copy-in as projections of one induction (`copy_in`), the two pointwise ones as
instances of `fields_pointwise`.
-/
namespace Rlbox.C08
open Rlbox

/-! ## Layout: for EVERY field list and every ABI with widths in {1,2,4,8} -/

/-- every field is placed at a multiple of its own (guest) alignment, at or after the running
offset, and ends before the fields that follow begin / before the end of the struct -/
theorem C08_field_placed (abi : Abi) (h : abi.ok) (fs : List CTy) :
    ∀ (off i o : Nat) (f : CTy), (fieldOffsets abi fs off)[i]? = some o → fs[i]? = some f →
      o % f.align abi = 0 ∧ off ≤ o ∧ o + f.size abi ≤ endOff abi fs off := by
  induction fs with
  | nil => intro off i o f ho; cases ho
  | cons g gs ih =>
    intro off i o f ho hf
    have hlo := fieldOffsets_ge abi h _ off o (List.mem_of_getElem? ho)
    rw [endOff_cons]
    cases i with
    | zero =>
      cases ho; cases hf
      exact ⟨roundUp_mod _ _ (align_pos abi h g), hlo, endOff_ge abi h gs _⟩
    | succ i => exact ⟨(ih _ i o f ho hf).1, hlo, (ih _ i o f ho hf).2.2⟩

/-- no two fields overlap: field i ends before field j begins, for every i < j -/
theorem C08_fields_disjoint (abi : Abi) (h : abi.ok) (fs : List CTy) :
    ∀ (off i j oi oj : Nat) (fi : CTy), i < j → (fieldOffsets abi fs off)[i]? = some oi →
      (fieldOffsets abi fs off)[j]? = some oj → fs[i]? = some fi → oi + fi.size abi ≤ oj := by
  induction fs with
  | nil => intro off i j oi oj fi _ ho; cases ho
  | cons g gs ih =>
    intro off i j oi oj fi hij hoi hoj hfi
    obtain ⟨j, rfl⟩ : ∃ j', j = j' + 1 := ⟨j - 1, by omega⟩
    cases i with
    | zero =>
      cases hoi; cases hfi
      exact fieldOffsets_ge abi h gs _ oj (List.mem_of_getElem? hoj)
    | succ i => exact ih _ i j oi oj fi (by omega) hoi hoj hfi

/-- `sizeof` is the padded end: a multiple of the struct's alignment, which every field's
alignment divides; every field lies inside `[0, sizeof)` -/
theorem C08_sizeof (abi : Abi) (h : abi.ok) (fs : List CTy) :
    (CTy.struct fs).size abi % (CTy.struct fs).align abi = 0 ∧
    (∀ f ∈ fs, (CTy.struct fs).align abi % f.align abi = 0) ∧
    (∀ (i o : Nat) (f : CTy), (fieldOffsets abi fs 0)[i]? = some o → fs[i]? = some f → o + f.size abi ≤ (CTy.struct fs).size abi) := by
  have hpos := align_pos abi h (.struct fs)
  have hs : (CTy.struct fs).size abi = roundUp (endOff abi fs 0) ((CTy.struct fs).align abi) := rfl
  refine ⟨hs ▸ roundUp_mod _ _ hpos, fun f hf => ?_, fun i o f ho hf => ?_⟩
  · exact Nat.mod_eq_zero_of_dvd ((layoutGo_snd abi fs (aligns_pow2 abi h fs) 0 1 ⟨0, rfl⟩).2.2 f hf)
  · have := (C08_field_placed abi h fs 0 i o f ho hf).2.2
    have := roundUp_ge (endOff abi fs 0) _ hpos
    omega

/-- the guest layout is a function of the ABI alone -- and it differs from the application's:
`struct { char c; long l; int* p; }` is 12 bytes with offsets 0,4,8 under ABI A and 24 bytes with
offsets 0,8,16 for the application -/
example : fieldOffsets abiA [.base .char, .base .long, .ptr] 0 = [0, 4, 8] ∧ (CTy.struct [.base .char, .base .long, .ptr]).size abiA = 12 ∧
    fieldOffsets abiHost [.base .char, .base .long, .ptr] 0 = [0, 8, 16] ∧ (CTy.struct [.base .char, .base .long, .ptr]).size abiHost = 24 := by
  decide
example : abiA.ok ∧ abiB.ok ∧ abiC.ok ∧ abiHost.ok := by simp [Abi.ok, Abi.wf, abiA, abiB, abiC, abiHost]

/-! ## Field-by-field conversion: round trip, abort exactly when a field is not representable,
      every image field determined by the corresponding source field -/

/-- What copying a well-typed value in (`out`) does: it goes through when `fits`, only then, and the
image is `good`.  The three statements C08 makes about copy-in, as one property that every leaf has
and that `Option.map` and the list recursions preserve. -/
def CopyIn {α : Type} (fits : Prop) (out : Option α) (good : α → Prop) : Prop :=
  (fits → ∃ g, out = some g) ∧ ∀ g, out = some g → fits ∧ good g

theorem CopyIn.some {α : Type} {fits : Prop} {good : α → Prop} {a : α} (hf : fits) (h : good a) :
    CopyIn fits (some a) good :=
  ⟨fun _ => ⟨a, rfl⟩, fun _ e => ⟨hf, Option.some.inj e ▸ h⟩⟩

theorem CopyIn.none {α : Type} {fits : Prop} {good : α → Prop} (hf : ¬ fits) : CopyIn fits (none : Option α) good :=
  ⟨fun h => (hf h).elim, fun _ e => nomatch e⟩

theorem CopyIn.map {α β : Type} {fits : Prop} {out : Option α} {good : α → Prop} {good' : β → Prop} {f : α → β}
    (h : CopyIn fits out good) (hg : ∀ a, good a → good' (f a)) : CopyIn fits (out.map f) good' := by
  simp only [CopyIn, Option.map_eq_some_iff]
  refine ⟨fun hf => ?_, ?_⟩
  · obtain ⟨a, ha⟩ := h.1 hf; exact ⟨_, a, ha, rfl⟩
  · rintro _ ⟨a, ha, rfl⟩; exact ⟨(h.2 a ha).1, hg a (h.2 a ha).2⟩

theorem CopyIn.cons {α : Type} {p q : Prop} {o : Option α} {os : Option (List α)} {g : α → Prop} {gs gl : List α → Prop}
    (h : CopyIn p o g) (hs : CopyIn q os gs) (hg : ∀ a as, g a → gs as → gl (a :: as)) :
    CopyIn (p ∧ q) (o.bind fun a => os.map (a :: ·)) gl := by
  simp only [CopyIn, Option.bind_eq_some_iff, Option.map_eq_some_iff]
  refine ⟨fun hf => ?_, ?_⟩
  · obtain ⟨a, ha⟩ := h.1 hf.1; obtain ⟨as, has⟩ := hs.1 hf.2; exact ⟨_, a, ha, as, has, rfl⟩
  · rintro _ ⟨a, ha, as, has, rfl⟩
    exact ⟨⟨(h.2 a ha).1, (hs.2 as has).1⟩, hg a as (h.2 a ha).2 (hs.2 as has).2⟩

/-- Copy-in of a well-typed value goes through exactly when every integer leaf fits its guest type,
and copy-out then returns the value: by the recursion of `WT`, integers per C06, pointers per C04. -/
theorem copy_in (abi : Abi) (habi : abi.wf) (s : Sbx) :
    (∀ v t, WT s v t → CopyIn (Fits abi v t) (toGuestV abi s v t) fun g => C04.Sbx.wf s → toAppV abi s g t = some v) ∧
    (∀ vs fs, WTFields s vs fs → CopyIn (FitsFields abi vs fs) (toGuestFields abi s vs fs) fun gs =>
      C04.Sbx.wf s → toAppFields abi s gs fs = some vs) ∧
    (∀ vs el, WTArr s vs el → CopyIn (FitsArr abi vs el) (toGuestArr abi s vs el) fun gs =>
      gs.length = vs.length ∧ (C04.Sbx.wf s → toAppArr abi s gs el = some vs)) := by
  refine WT.mutual_induct _ _ _ ?int ?float ?double ?enum ?ptr ?fn ?arr ?struct ?mismatch ?nil ?cons ?length ?anil ?acons
  case int =>
    intro v b (hw : b.app.inRange v)
    simp only [Fits, toGuestV, C06.toSandbox_eq habi hw]
    split
    · next hf => exact .some hf fun _ => by simp [toAppV, C06.toApplication_eq habi hf, hw]
    · next hf => exact .none hf
  case float | double | enum | fn => intro v _; exact .some trivial fun _ => by simp [toAppV]
  case ptr => intro a hw; exact .some trivial fun hs => by simp [toAppV, C04.rt_addr_or_null s hs a hw]
  case arr =>
    intro vs n el ih hw
    obtain ⟨rfl, hw⟩ := hw
    simp only [Fits, toGuestV, if_true]
    exact (ih hw).map fun gs h hs => by simp [toAppV, h.1, h.2 hs]
  case struct =>
    intro vs fs ih hw
    simp only [Fits, toGuestV]
    exact (ih hw).map fun gs h hs => by simp [toAppV, h hs]
  case mismatch => intro v t h1 h2 h3 h4 h5 h6 h7 h8 hw; exact (WT.eq_9 s v t h1 h2 h3 h4 h5 h6 h7 h8 ▸ hw).elim
  case nil => intro _; exact .some trivial fun _ => rfl
  case cons =>
    intro v vs f fs ih ihs hw
    simp only [FitsFields, toGuestFields_cons]
    exact (ih hw.1).cons (ihs hw.2) fun g gs h hs' hs => by simp [toAppFields, h hs, hs' hs]
  case length => intro vs fs h1 h2 hw; exact (WTFields.eq_3 s vs fs h1 h2 ▸ hw).elim
  case anil => intro _ _; exact .some trivial ⟨rfl, fun _ => rfl⟩
  case acons =>
    intro v vs el ih ihs hw
    simp only [FitsArr, toGuestArr_cons]
    exact (ih hw.1).cons (ihs hw.2) fun g gs h hs' => ⟨by simp [hs'.1], fun hs => by simp [toAppArr, h hs, hs'.2 hs]⟩

/-- **Round trip**: copying a well-typed struct value into the sandbox and back returns every field
(integers per C06, pointers per C04, arrays element-wise, nested structs recursively) whenever the
copy-in did not abort. -/
theorem C08_roundtrip (abi : Abi) (habi : abi.wf) (s : Sbx) (hs : C04.Sbx.wf s) :
    ∀ (v : SVal) (t : CTy) (g : SVal), WT s v t → toGuestV abi s v t = some g → toAppV abi s g t = some v :=
  fun v t g hw h => (((copy_in abi habi s).1 v t hw).2 g h).2 hs

theorem C08_roundtrip_arr (abi : Abi) (habi : abi.wf) (s : Sbx) (hs : C04.Sbx.wf s) :
    ∀ (vs : List SVal) (el : CTy) (gs : List SVal), WTArr s vs el → toGuestArr abi s vs el = some gs →
      gs.length = vs.length ∧ toAppArr abi s gs el = some vs :=
  fun vs el gs hw h => (((copy_in abi habi s).2.2 vs el hw).2 gs h).2.imp_right (· hs)

theorem C08_roundtrip_fields (abi : Abi) (habi : abi.wf) (s : Sbx) (hs : C04.Sbx.wf s) :
    ∀ (vs : List SVal) (fs : List CTy) (gs : List SVal), WTFields s vs fs → toGuestFields abi s vs fs = some gs →
      toAppFields abi s gs fs = some vs :=
  fun vs fs gs hw h => (((copy_in abi habi s).2.1 vs fs hw).2 gs h).2 hs

/-- **No spurious abort**: a well-typed value all of whose integer leaves fit their guest types is
converted (no abort). -/
theorem C08_total (abi : Abi) (habi : abi.wf) (s : Sbx) :
    ∀ (v : SVal) (t : CTy), WT s v t → Fits abi v t → ∃ g, toGuestV abi s v t = some g :=
  fun v t hw => ((copy_in abi habi s).1 v t hw).1

theorem C08_total_arr (abi : Abi) (habi : abi.wf) (s : Sbx) :
    ∀ (vs : List SVal) (el : CTy), WTArr s vs el → FitsArr abi vs el → ∃ gs, toGuestArr abi s vs el = some gs :=
  fun vs el hw => ((copy_in abi habi s).2.2 vs el hw).1

theorem C08_total_fields (abi : Abi) (habi : abi.wf) (s : Sbx) :
    ∀ (vs : List SVal) (fs : List CTy), WTFields s vs fs → FitsFields abi vs fs → ∃ gs, toGuestFields abi s vs fs = some gs :=
  fun vs fs hw => ((copy_in abi habi s).2.1 vs fs hw).1

/-- **Abort when not representable**: if the copy-in went through, every integer leaf fits its
guest type (so an unrepresentable field ALWAYS aborts the whole copy). -/
theorem C08_done_fits (abi : Abi) (habi : abi.wf) (s : Sbx) :
    ∀ (v : SVal) (t : CTy) (g : SVal), WT s v t → toGuestV abi s v t = some g → Fits abi v t :=
  fun v t g hw h => (((copy_in abi habi s).1 v t hw).2 g h).1

theorem C08_done_fits_arr (abi : Abi) (habi : abi.wf) (s : Sbx) :
    ∀ (vs : List SVal) (el : CTy) (gs : List SVal), WTArr s vs el → toGuestArr abi s vs el = some gs → FitsArr abi vs el :=
  fun vs el gs hw h => (((copy_in abi habi s).2.2 vs el hw).2 gs h).1

theorem C08_done_fits_fields (abi : Abi) (habi : abi.wf) (s : Sbx) :
    ∀ (vs : List SVal) (fs : List CTy) (gs : List SVal), WTFields s vs fs → toGuestFields abi s vs fs = some gs → FitsFields abi vs fs :=
  fun vs fs gs hw h => (((copy_in abi habi s).2.1 vs fs hw).2 gs h).1

/-- a function built from `f` by the recursion of `toGuestFields` / `toAppFields` acts index by index -/
theorem fields_pointwise {f : SVal → CTy → Option SVal} {F : List SVal → List CTy → Option (List SVal)}
    (hnil : F [] [] = some []) (hl : ∀ t ts, F [] (t :: ts) = none) (hr : ∀ v vs, F (v :: vs) [] = none)
    (hcons : ∀ v vs t ts, F (v :: vs) (t :: ts) = (f v t).bind fun g => (F vs ts).map (g :: ·)) :
    ∀ (vs : List SVal) (fs : List CTy) (gs : List SVal), F vs fs = some gs →
      gs.length = vs.length ∧ vs.length = fs.length ∧
      ∀ (i : Nat) (v : SVal) (t : CTy), vs[i]? = some v → fs[i]? = some t → ∃ g, gs[i]? = some g ∧ f v t = some g
  | [], [], gs, h => by cases hnil.symm.trans h; simp
  | [], _ :: _, _, h => by simp [hl] at h
  | _ :: _, [], _, h => by simp [hr] at h
  | v :: vs, t :: ts, _, h => by
      simp only [hcons, Option.bind_eq_some_iff, Option.map_eq_some_iff] at h
      obtain ⟨g, hg, gs, hgs, rfl⟩ := h
      obtain ⟨a1, a2, a3⟩ := fields_pointwise hnil hl hr hcons vs ts gs hgs
      refine ⟨by simp [a1], by simp [a2], fun i => ?_⟩
      cases i with
      | zero => intro v' t' hv ht; cases hv; cases ht; exact ⟨g, rfl, hg⟩
      | succ i => exact a3 i

/-- **Pointwise**: field i of the image is the conversion of field i of the source and of nothing
else -- no field is skipped, duplicated or taken from a neighbouring field; the image has exactly
as many fields as the source. -/
theorem C08_pointwise (abi : Abi) (s : Sbx) :
    ∀ (vs : List SVal) (fs : List CTy) (gs : List SVal), toGuestFields abi s vs fs = some gs →
      gs.length = vs.length ∧ vs.length = fs.length ∧
      ∀ (i : Nat) (v : SVal) (f : CTy), vs[i]? = some v → fs[i]? = some f → ∃ g, gs[i]? = some g ∧ toGuestV abi s v f = some g :=
  fields_pointwise rfl (by simp [toGuestFields]) (by simp [toGuestFields]) (toGuestFields_cons abi s)

/-- the same in the other direction (copy out / by-value result) -/
theorem C08_pointwise_out (abi : Abi) (s : Sbx) :
    ∀ (gs : List SVal) (fs : List CTy) (vs : List SVal), toAppFields abi s gs fs = some vs →
      vs.length = gs.length ∧ gs.length = fs.length ∧
      ∀ (i : Nat) (g : SVal) (f : CTy), gs[i]? = some g → fs[i]? = some f → ∃ v, vs[i]? = some v ∧ toAppV abi s g f = some v :=
  fields_pointwise rfl (by simp [toAppFields]) (by simp [toAppFields]) (toAppFields_cons abi s)

/-- non-vacuity: a struct with a long, a pointer and a nested struct; one value round-trips, one aborts -/
def exTy : CTy := .struct [.base .char, .base .long, .ptr, .struct [.base .short, .arr 2 (.base .long)]]
def exSbx : Sbx := ⟨⟨16, 0x6a0000000000⟩, 4⟩
def exVal (l : Int) : SVal := .struct [.int 120, .int l, .ptr (0x6a0000000000 + 4096), .struct [.int (-3), .arr [.int 7, .int (-9)]]]
example : toGuestV abiA exSbx (exVal 5) exTy = some (.struct [.int 120, .int 5, .ptr 4096, .struct [.int (-3), .arr [.int 7, .int (-9)]]]) := by rfl
example : toGuestV abiA exSbx (exVal 2147483648) exTy = none := by rfl
example : leafRel abiA exTy = [0, 4, 8, 12, 16, 20] ∧ exTy.size abiA = 24 := by decide

/-! ## The image at byte level: nothing outside the leaves' footprints is written -/

/-- **Frame of a whole-struct store**: copying a struct image into sandbox memory writes exactly the
footprints of its scalar leaves: every other byte -- padding inside the struct, and everything
before and after it -- keeps its value, for every struct type, nesting and ABI. -/
theorem C08_store_frame (abi : Abi) (t : CTy) (g : SVal) (base : Nat) (m : Mem) (x : Nat)
    (hx : ∀ p ∈ (leafRel abi t).zip (leafSizes abi t), x < base + p.1 ∨ base + p.1 + p.2 ≤ x) :
    writeMany m (imageWrites abi t g base) x = m x := by
  apply writeMany_frame
  intro w hw
  simp only [imageWrites, List.mem_map] at hw
  obtain ⟨⟨off, sz, v⟩, hmem, rfl⟩ := hw
  -- the leaf's offset and size stand at one index of `leafRel` and `leafSizes`
  obtain ⟨i, hi⟩ := List.mem_iff_getElem?.1 hmem
  simp only [List.getElem?_zip_eq_some] at hi
  simpa [leafBytes_length] using hx (off, sz) (List.mem_iff_getElem?.2 ⟨i, List.getElem?_zip_eq_some.2 ⟨hi.1, hi.2.1⟩⟩)

/-- non-vacuity: `struct { char c; long l; int* p; }` under ABI A at 0x100: bytes 0x101..0x103 are
padding and keep their value; the leaves are written -/
def exImg : Mem := writeMany (fun _ => 0xEE) (imageWrites abiA (.struct [.base .char, .base .long, .ptr]) (.struct [.int 120, .int 5, .ptr 4096]) 0x100)
example : exImg 0x100 = 120 ∧ exImg 0x101 = 0xEE ∧ exImg 0x103 = 0xEE ∧ exImg 0x104 = 5 ∧ exImg 0x108 = 0 ∧ exImg 0x109 = 16 ∧
    exImg 0x10c = 0xEE ∧ exImg 0xff = 0xEE := by decide

end Rlbox.C08
