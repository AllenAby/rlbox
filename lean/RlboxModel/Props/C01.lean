import RlboxModel.TypingSpec
/-!
# C01 — Sandbox data cannot lose its taint implicitly
Property theorems only.  The table of single-step facts is regenerated from the compiler's
verdicts on the current headers on every run; the theorems below are proved about that table.
-/
namespace Rlbox.C01
open Rlbox Rlbox.Typing

/-- Taking the row apart by `match` puts the rule NUMERAL itself into the row test, so the kernel
meets the same closed terms (`ruleName 23`, `cmpRules.contains (ruleName 23)`, the name tests of
`declass 23`) at every row of that rule and evaluates each once; written with `r.1` they differ from
row to row and the list of names is walked again for every row.  Hence also `simp -iota` below: plain
`simp` turns the `match` back into projections.  Splitting `accepted` at its `++` saves the kernel
from re-consing the left-nested appends. -/
theorem tab_all (f : Row → Bool) : tab.all f = GeneratedTyping.accepted.all fun | (a, b, c) => f (a, b, c) := rfl
theorem tab_any (f : Row → Bool) : tab.any f = GeneratedTyping.accepted.any fun | (a, b, c) => f (a, b, c) := rfl

def stepSafeB : Bool := tab.all (rowSafe declass)
def opsNonVoidB : Bool := tab.all fun r => r.2.1.all fun o => o.1 != wVoid

/-- PROOF OBLIGATION re-checked against the compiler's verdicts on every run: every accepted
single-step row with a wrapped operand yields a wrapped result, unless it is a declassifier. -/
theorem table_safe : stepSafeB = true := by
  simp -iota only [stepSafeB, tab_all, rowSafe, GeneratedTyping.accepted, List.all_append]
  decide +kernel
theorem table_ops_nonvoid : opsNonVoidB = true := by
  simp only [opsNonVoidB, tab, GeneratedTyping.accepted, List.all_append]
  decide +kernel

theorem stepSafe : StepSafe declass tab := List.all_eq_true.1 table_safe

theorem opsNonVoid : OpsNonVoid tab := fun r hr o ho =>
  bne_iff_ne.1 (List.all_eq_true.1 (List.all_eq_true.1 table_ops_nonvoid r hr) o ho)

/-- **C01**: for every expression tree over the wrapper API (every operator, conversion context,
member, cast; leaves of every wrapper and type kind; ANY depth), if it compiles and still carries
sandbox-originated data then its type is not a plain application type. -/
theorem C01_taint_preserved (e : Expr) (t : Ty) (h : typeOf tab e = some t) (ht : semTaint declass tab e = true) :
    t.1 ≠ wPlain :=
  taint_preserved declass tab stepSafe opsNonVoid e t h ht

def cmpRules : List String := ["bin==", "bin!=", "bin<", "bin<=", "bin>", "bin>=", "eq_null", "ne_null", "lnot"]

/-- any comparison that involves data still residing in sandbox memory (a tainted_volatile operand)
or a hint yields only a hint -/
def hintB : Bool := tab.all fun r =>
  !(cmpRules.contains (ruleName r.1) && r.2.1.any (fun o => o.1 == wTvol || o.1 == wBHint || o.1 == wIHint)) ||
  r.2.2.1 == wBHint
theorem C01_hint : hintB = true := by
  simp -iota only [hintB, tab_all, GeneratedTyping.accepted, List.all_append]
  decide +kernel

/-- `rlbox::memcmp` compares bytes that reside in sandbox memory: its result is only ever an int hint -/
def memcmpHintB : Bool := tab.all fun r => !(ruleName r.1 == "memcmp_hint") || r.2.2.1 == wIHint
theorem C01_memcmp_hint : memcmpHintB = true ∧ (tab.any fun r => ruleName r.1 == "memcmp_hint") = true := by
  simp -iota only [memcmpHintB, tab_all, tab_any, GeneratedTyping.accepted, List.all_append, List.any_append]
  decide +kernel

/-- a hint stays a hint: whatever is computed from a hint operand (copies, negation, comparisons, arithmetic, logic) is again
a hint (or nothing, or the address of the hint object) -- it can never be laundered into a `tainted` value, which a verifier
would accept; only the explicitly named unsafe unwrappers turn it into a plain value -/
def hintStickyB : Bool := tab.all fun r =>
  !(r.2.1.any fun o => o.1 == wBHint || o.1 == wIHint) ||
  r.2.2.1 == wBHint || r.2.2.1 == wIHint || r.2.2.1 == wVoid || r.2.2.1 == wPtrToWrapper ||
  ["m_unverified", "m_safe_because", "m_internal"].contains (ruleName r.1)
theorem C01_hint_sticky : hintStickyB = true := by
  simp -iota only [hintStickyB, tab_all, GeneratedTyping.accepted, List.all_append]
  decide +kernel

/-- hints cannot be passed to a verifier: no `copy_and_verify*` row with a hint operand compiles -/
def hintNotVerifiableB : Bool := tab.all fun r =>
  !(["m_cav", "m_cav_addr", "m_cav_range", "m_cav_string", "m_cav_buf"].contains (ruleName r.1) &&
    r.2.1.any (fun o => o.1 == wBHint || o.1 == wIHint))
theorem C01_hint_not_verifiable : hintNotVerifiableB = true := by
  simp -iota only [hintNotVerifiableB, tab_all, GeneratedTyping.accepted, List.all_append]
  decide +kernel

/-- `tainted_opaque` is inert: the only accepted steps on an opaque operand are copying it
(initialisation, or assignment of an opaque to an opaque, which yields the opaque again), taking its
address, `set_zero`, `from_opaque` and freeing it -- in particular no comparison, arithmetic or
logical operator accepts an opaque operand on either side -/
def opaqueInertB : Bool := tab.all fun r =>
  !(r.2.1.any (fun o => o.1 == wOpaque)) ||
  ["init_auto", "addr", "m_set_zero", "f_from_opaque", "free"].contains (ruleName r.1) ||
  (ruleName r.1 == "bin=" && r.2.1.all (fun o => o.1 == wOpaque) && r.2.2.1 == wOpaque)
theorem C01_opaque_inert : opaqueInertB = true := by
  simp -iota only [opaqueInertB, tab_all, GeneratedTyping.accepted, List.all_append]
  decide +kernel

/-- private storage stays private: no member access to the raw fields compiles -/
def noRawAccessB : Bool := tab.all fun r =>
  !(["m_get_raw_value", "m_get_raw_sandbox_value", "m_data", "m_val"].contains (ruleName r.1))
theorem C01_no_raw_access : noRawAccessB = true := by
  simp -iota only [noRawAccessB, tab_all, GeneratedTyping.accepted, List.all_append]
  decide +kernel

/-- non-vacuity: the table is large, and both a wrapped and a declassified result occur -/
example : tab.length > 1500 ∧ GeneratedTyping.rejectedCount > 5000 := by
  simp only [tab, GeneratedTyping.accepted, List.length_append]
  decide +kernel
example : typeOf tab (.app (GeneratedTyping.ruleNames.idxOf "bin+") [.app (GeneratedTyping.ruleNames.idxOf "deref") [.leaf (wTainted, 6)], .leaf (wPlain, 0)])
    = some (wTainted, 0) := by
  simp only [typeOf, typesOf, lookup, tab, GeneratedTyping.accepted, List.find?_append]
  decide +kernel

end Rlbox.C01
