import RlboxModel.Lemmas.Arith
import RlboxModel.Layout
import RlboxModel.Generated
/-!
# C05 — Tainted pointer arithmetic stays in the sandbox and uses the sandbox stride

Property theorems only; the facts about `ptrArith` they rest on are in `Lemmas/Arith.lean`.  The wrapped `uintptr_t`
arithmetic of `ptrArithCore` computes the exact target modulo `2^64` (`ptrArithCore_eq`, unconditionally).  A residue
modulo `2^64` of an integer less than `2^64 - 2^k` away from `p` can lie in `p`'s region only if the integer itself does
(`residue_in_window`, whence `ptrArithCore_exact`); `check_pointer_offset` keeps the offset below `2^63`, and an aligned
non-null region is at most `2^63` bytes.  That is `C05_exact`.
-/
namespace Rlbox.C05
open Rlbox

/-- Never leaves: whatever `p`, `n`, `s`, a result is in the same sandbox as `p` (unconditional). -/
theorem C05_inside (k : Nat) (f : ArithForm) (p : Nat) (n : Int) (s t : Nat)
    (h : ptrArith k f p n s = some t) : sameSbx k p t = true :=
  (ptrArith_eq_some.1 h).2.2.1

/-- ... and therefore inside `p`'s own region. -/
theorem C05_inside_region (r : Region) (hr : r.wf) (f : ArithForm) (p : Nat) (n : Int) (s t : Nat)
    (hp : r.contains p) (h : ptrArith r.k f p n s = some t) : r.contains t :=
  (sameSbx_iff_contains r hr p t hp).1 (C05_inside r.k f p n s t h)

/-- Adding to or subtracting from a null tainted pointer aborts. -/
theorem C05_null_aborts (k : Nat) (f : ArithForm) (n : Int) (s : Nat) :
    ptrArith k f 0 n s = none := by
  simp [ptrArith, ptrArithCore]

/-- What C05 demands: the exact address if it lies inside the sandbox, abort otherwise. -/
def Exact (r : Region) (f : ArithForm) (p : Nat) (n : Int) (s : Nat) : Prop :=
  let e := exactTarget f p n s
  ptrArith r.k f p n s = if (r.base : Int) ≤ e ∧ e < ((r.base + 2 ^ r.k : Nat) : Int) then some e.toNat else none

/-- Full-strength statement: for every non-null in-region `p`, every `n` an integer type can hold
and every stride. -/
def C05_full : Prop :=
  ∀ (r : Region) (f : ArithForm) (p : Nat) (n : Int) (s : Nat), r.wf → r.contains p → 0 < s →
    -(2 ^ 63 : Int) ≤ n → n < 2 ^ 64 → Exact r f p n s

/-- non-vacuity: a concrete in-region pointer, both outcomes -/
example : ptrArith 16 .add 0x6a0000000010 3 4 = some 0x6a000000001c := by decide
example : ptrArith 16 .sub 0x6a0000000010 5 4 = none := by decide
example : (⟨16, 0x6a0000000000⟩ : Region).wf ∧ (⟨16, 0x6a0000000000⟩ : Region).contains 0x6a0000000010 := by
  simp [Region.wf, Region.contains, W64]

/-- **Exact or abort, full strength** (after the repair of F8: `check_pointer_offset`): for every
non-null in-region `p`, EVERY integer `n` and every stride, the result is the exact address
`p ± n*s` when that lies inside the sandbox, and the operation aborts otherwise -- a product or sum
that wraps around the address space can no longer land back inside. -/
theorem C05_exact (r : Region) (f : ArithForm) (p : Nat) (n : Int) (s : Nat)
    (hr : r.wf) (hp : r.contains p) (hs : 0 < s) : Exact r f p n s := by
  have hk := Region.size_le_base hr
  have hb := hr.2.2
  unfold Exact ptrArith
  by_cases hok : offsetOk n s = true
  · -- within the offset limit: the wrapped arithmetic is exact
    rw [if_pos hok]
    rw [offsetOk_iff n hs] at hok
    exact ptrArithCore_exact hr hp f n s (by omega)
  · -- beyond the limit: the exact target is at least 2^63 bytes away from p, hence outside
    rw [if_neg hok]
    rw [offsetOk_iff n hs] at hok
    have hd := exactTarget_dist f p n s
    have := hp.1; have := hp.2
    exact (if_neg (by omega)).symm

/-- the full-strength statement of the property now holds (it was false before the repair: `p + 2^62`
on an `int*` returned `p`; witness kept in corpus/C05/) -/
theorem C05_full_holds : C05_full := by
  intro r f p n s hr hp hs _ _
  exact C05_exact r f p n s hr hp hs

/-- non-vacuity of the guard: the old witness now aborts -/
example : ptrArith 16 .add 0x6a0000000000 (2 ^ 62) 4 = none := by decide
example : ptrArithCore 16 .add 0x6a0000000000 (2 ^ 62) 4 = some 0x6a0000000000 := by decide

/-- The ten source forms are the two primitive forms plus bookkeeping: which primitive, which
operand, what is returned and what is stored back.  (The statement that post-decrement goes through
`-` is tied to the source by `postDec_calls_decrement` below.) -/
theorem C05_compound (k : Nat) (form : PtrForm) (p : Nat) (n : Int) (s : Nat) :
    ptrForm k form p n s =
      match form with
      | .add => (ptrArith k .add p n s).map fun t => (t, p)
      | .sub => (ptrArith k .sub p n s).map fun t => (t, p)
      | .addEq => (ptrArith k .add p n s).map fun t => (t, t)
      | .subEq => (ptrArith k .sub p n s).map fun t => (t, t)
      | .preInc => (ptrArith k .add p 1 s).map fun t => (t, t)
      | .postInc => (ptrArith k .add p 1 s).map fun t => (p, t)
      | .preDec => (ptrArith k .sub p 1 s).map fun t => (t, t)
      | .postDec => (ptrArith k .sub p 1 s).map fun t => (p, t)
      | .idx => (ptrArith k .index p n s).map fun t => (t, p)
      | .addrIdx => (ptrArith k .index p n s).map fun t => (t, p) := by
  cases form <;> rfl

/-- every form stays inside `p`'s region -/
theorem C05_forms_inside (r : Region) (hr : r.wf) (form : PtrForm) (p : Nat) (n : Int) (s : Nat)
    (res newp : Nat) (hp : r.contains p) (h : ptrForm r.k form p n s = some (res, newp)) :
    r.contains res ∧ r.contains newp := by
  -- each form is a result `t` of `ptrArith` on `p`, paired with itself or with `p`
  have key : ∀ f m (g : Nat → Nat × Nat), (∀ t, r.contains t → r.contains (g t).1 ∧ r.contains (g t).2) →
      (ptrArith r.k f p m s).map g = some (res, newp) → r.contains res ∧ r.contains newp := by
    intro f m g hg h
    obtain ⟨t, ht, he⟩ := Option.map_eq_some_iff.1 h
    have := hg t (C05_inside_region r hr f p m s t hp ht)
    rwa [he] at this
  cases form <;> exact key _ _ _ (fun _ ht => ⟨by assumption, by assumption⟩) h

/-- Source facts regenerated on every run (gen/extract_facts.py): `PostIncDecOps(op)` must call
`operator op op ()` (token paste of its own symbol), pre-forms step by 1 through `op`, compound
assignment goes through its own `op`, and `+`/`-` are the two pointer-capable binary operators. -/
theorem postDec_calls_decrement : Generated.postIncDecUsesOwnSymbol = true := by decide
theorem preIncDec_step : Generated.preIncDecStep = ("opSymbol", 1) := by decide
theorem compound_through_own_op : Generated.compoundBody = "opSymbol" := by decide
theorem ptr_ops_are_plus_minus :
    (Generated.binaryOpValAndPtr.length = 2 ∧ "+" ∈ Generated.binaryOpValAndPtr ∧ "-" ∈ Generated.binaryOpValAndPtr) ∧
    (Generated.preIncDecOps.length = 2 ∧ "+" ∈ Generated.preIncDecOps ∧ "-" ∈ Generated.preIncDecOps) ∧
    (Generated.postIncDecOps.length = 2 ∧ "+" ∈ Generated.postIncDecOps ∧ "-" ∈ Generated.postIncDecOps) := by decide

/-- The stride is the size of the pointee under the sandbox ABI: for every type it is the size the
layout model (shared with C07/C08) assigns, e.g. `long` is 4 under ABI A and 8 for the application. -/
theorem C05_stride_examples :
    (CTy.base .long).size abiA = 4 ∧ (CTy.base .long).size abiHost = 8 ∧ CTy.ptr.size abiA = 4 ∧
    (CTy.arr 3 (.base .int)).size abiA = 12 ∧
    (CTy.struct [.base .char, .base .long, .ptr]).size abiA = 12 ∧
    (CTy.struct [.base .char, .base .long, .ptr]).size abiHost = 24 := by decide

end Rlbox.C05
