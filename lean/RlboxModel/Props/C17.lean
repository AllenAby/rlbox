import RlboxModel.Lemmas.IntLemmas
import RlboxModel.Lemmas.Arith
import RlboxModel.Lemmas.SnapLemmas
/-!
# C17 — Indexing a tainted fixed-size array is bounds-checked for every index type
Property theorems only.
-/
namespace Rlbox.C17
open Rlbox

/-- The check accepts exactly the indices `0 ≤ v < n`, for every (non-bool) integer index type and
every value of that type: the comparison is made on `static_cast<make_unsigned_t<T>>(v)`, after
`v >= 0`, so no truncation can alias a large index to a valid one. -/
theorem C17_checked (idx : IntTy) (v : Int) (n : Nat) (hw : idx.wf) (hnb : idx.isBool = false)
    (hv : idx.inRange v) : indexOk idx v n = true ↔ (0 ≤ v ∧ v < n) := by
  simp only [indexOk, Bool.and_eq_true, decide_eq_true_eq, ge_iff_le]
  exact and_congr_right fun h0 => by rw [IntTy.toUnsigned_cast_of_nonneg hnb hv h0]

/-- An accepted index designates exactly element `v`, wholly inside the array:
`base + v*stride`, with `base + v*stride + stride ≤ base + n*stride`. -/
theorem C17_designates (idx : IntTy) (v : Int) (n stride base a : Nat) (hw : idx.wf) (hnb : idx.isBool = false)
    (hv : idx.inRange v) (h : indexArr idx v n stride base = some a) :
    a = base + v.toNat * stride ∧ a + stride ≤ base + n * stride ∧ 0 ≤ v ∧ v < n := by
  obtain ⟨hok, rfl⟩ := Option.ite_some_none_eq_some.1 h
  have ⟨h0, h1⟩ := (C17_checked idx v n hw hnb hv).1 hok
  have := elem_end_le (show v.toNat < n by omega) stride
  exact ⟨rfl, by omega, h0, h1⟩

/-- Out-of-range indices abort, whatever the index type. -/
theorem C17_aborts (idx : IntTy) (v : Int) (n stride base : Nat) (hw : idx.wf) (hnb : idx.isBool = false)
    (hv : idx.inRange v) (hbad : v < 0 ∨ (n : Int) ≤ v) : indexArr idx v n stride base = none :=
  if_neg fun hok => by have := (C17_checked idx v n hw hnb hv).1 hok; omega

/-- Arrays of ANY rank (no bound on the number of dimensions): if the chain of checked index applications
yields an address, every index lies inside its own dimension, the address is that of the row-major element,
and the element lies wholly inside the array. By induction on the rank. -/
theorem C17_multi_n (idx : IntTy) (hw : idx.wf) (hnb : idx.isBool = false) (s : Nat) :
    ∀ (is : List Int) (ns : List Nat) (base a : Nat), (∀ i ∈ is, idx.inRange i) →
      indexMulti idx is ns s base = some a →
      a = base + flatIdx is ns * s ∧ a + s ≤ base + dimsProd ns * s ∧
        allInside is ns
  | [], [], base, a, _, h => by cases h; simp [flatIdx, dimsProd, allInside]
  | i :: is, n :: ns, base, a, hr, h => by
    obtain ⟨r, hr1, h⟩ := Option.bind_eq_some_iff.1 h
    obtain ⟨e1, b1, i0, i1⟩ := C17_designates idx i n (dimsProd ns * s) base r hw hnb (hr i (by simp)) hr1
    obtain ⟨e2, b2, f2⟩ := C17_multi_n idx hw hnb s is ns r a (fun j hj => hr j (by simp [hj])) h
    refine ⟨?_, ?_, ⟨i0, i1⟩, f2⟩
    · rw [e2, e1, flatIdx, Nat.add_mul, Nat.mul_assoc, Nat.add_assoc]
    · rw [dimsProd, Nat.mul_assoc]; omega
  | [], _ :: _, _, _, _, h => by cases h
  | _ :: _, [], _, _, _, h => by cases h

/-- Converse for any rank: in-range index vectors of the right rank are never refused. -/
theorem C17_multi_n_complete (idx : IntTy) (hw : idx.wf) (hnb : idx.isBool = false) (s : Nat) :
    ∀ (is : List Int) (ns : List Nat) (base : Nat), (∀ i ∈ is, idx.inRange i) → allInside is ns →
      indexMulti idx is ns s base = some (base + flatIdx is ns * s)
  | [], [], base, _, _ => by simp [indexMulti, flatIdx]
  | i :: is, n :: ns, base, hr, ⟨hi, hrest⟩ => by
    have hok : indexOk idx i n = true := (C17_checked idx i n hw hnb (hr i (by simp))).2 hi
    rw [indexMulti, indexArr, if_pos hok, Option.bind_some,
      C17_multi_n_complete idx hw hnb s is ns _ (fun j hj => hr j (by simp [hj])) hrest,
      flatIdx, Nat.add_mul, Nat.mul_assoc, Nat.add_assoc]
  | [], _ :: _, _, _, h => h.elim
  | _ :: _, [], _, _, h => h.elim

/-- Two-dimensional arrays `T[n1][n2]`: the outer index steps by whole rows (`n2*s` bytes), the inner
by elements; both are checked, and the designated element is row-major `(i*n2 + j)` inside the array. -/
def index2 (idx : IntTy) (i j : Int) (n1 n2 s base : Nat) : Option Nat :=
  (indexArr idx i n1 (n2 * s) base).bind fun r => indexArr idx j n2 s r

/-- the 2-dimensional case of the general definition is `index2` -/
theorem index2_eq_multi (idx : IntTy) (i j : Int) (n1 n2 s base : Nat) :
    indexMulti idx [i, j] [n1, n2] s base = index2 idx i j n1 n2 s base := by
  simp only [indexMulti, index2, dimsProd, Nat.mul_one, Nat.one_mul]
  cases indexArr idx i n1 (n2 * s) base with
  | none => rfl
  | some r => simp only [Option.bind_some]; cases indexArr idx j n2 s r <;> rfl

theorem C17_multi (idx : IntTy) (i j : Int) (n1 n2 s base a : Nat) (hw : idx.wf) (hnb : idx.isBool = false)
    (hi : idx.inRange i) (hj : idx.inRange j) (h : index2 idx i j n1 n2 s base = some a) :
    a = base + (i.toNat * n2 + j.toNat) * s ∧ a + s ≤ base + n1 * n2 * s ∧ 0 ≤ i ∧ i < n1 ∧ 0 ≤ j ∧ j < n2 := by
  rw [← index2_eq_multi] at h
  have ⟨e, b, ⟨i0, i1⟩, ⟨j0, j1⟩, _⟩ :=
    C17_multi_n idx hw hnb s [i, j] [n1, n2] base a (by simp [hi, hj]) h
  simp only [flatIdx, dimsProd, Nat.mul_one, Nat.add_zero] at e b
  exact ⟨e, b, i0, i1, j0, j1⟩

/-- distinct accepted indices designate disjoint elements -/
theorem C17_disjoint (idx : IntTy) (v w : Int) (n stride base a b : Nat) (hw : idx.wf) (hnb : idx.isBool = false)
    (hv : idx.inRange v) (hw' : idx.inRange w) (ha : indexArr idx v n stride base = some a)
    (hb : indexArr idx w n stride base = some b) (hne : v ≠ w) : a + stride ≤ b ∨ b + stride ≤ a := by
  obtain ⟨rfl, _, v0, _⟩ := C17_designates idx v n stride base a hw hnb hv ha
  obtain ⟨rfl, _, w0, _⟩ := C17_designates idx w n stride base b hw hnb hw' hb
  rcases Nat.lt_or_gt_of_ne (show v.toNat ≠ w.toNat by omega) with h | h
  · have := elem_end_le h stride; omega
  · have := elem_end_le h stride; omega

/-- An index that lives in sandbox memory (`arr[*p]`, a `tainted_volatile` integer) may be rewritten by the
sandbox at any moment: whatever the adversary does and whenever, the access aborts or designates an element
of the array -- never a neighbour -- because the value that is checked is the value that is used. -/
theorem C17_volatile_index (adv : Snap.Adv) (s : Snap.St) (c n elSize : Nat) :
    (Snap.run adv (Snap.idxVol c n elSize) s).1 = .abort ∨
    ∃ i, i < n ∧ (Snap.run adv (Snap.idxVol c n elSize) s).1 = .addr (i * elSize) := by
  suffices h : Snap.Post adv (Snap.idxVol c n elSize) fun o => o = .abort ∨ ∃ i, i < n ∧ o = .addr (i * elSize) from h s
  refine Snap.Post.bind' fun bs => ?_
  dsimp only
  split
  · exact Snap.Post.pure (.inl rfl)
  · exact Snap.Post.pure (.inr ⟨decodeLE bs, by omega, rfl⟩)

/-- non-vacuity and the aliasing case: a 64-bit index equal to a valid index modulo 2^32 aborts -/
example : indexArr ⟨true, 8, false⟩ 4294967297 3 1 0 = none := by decide
example : indexArr ⟨false, 8, false⟩ 18446744073709551615 1 1 0 = none := by decide
example : indexArr ⟨true, 1, false⟩ (-1) 4 8 100 = none := by decide
example : indexArr ⟨false, 1, false⟩ 3 4 8 100 = some 124 := by decide
example : index2 ⟨true, 4, false⟩ 2 4 3 5 4 0 = some 56 := by decide
example : indexMulti ⟨true, 4, false⟩ [1, 2, 3] [2, 3, 4] 8 0 = some ((1*12 + 2*4 + 3) * 8) := by decide
example : indexMulti ⟨true, 4, false⟩ [1, 3, 3] [2, 3, 4] 8 0 = none := by decide
/-- the stride is that of the memory the array lives in -/
example : (CTy.base .long).size abiHost = 8 ∧ (CTy.base .long).size abiA = 4 := by decide

end Rlbox.C17
