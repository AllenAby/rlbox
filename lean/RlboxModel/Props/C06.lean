import RlboxModel.Props.C06Core
import RlboxModel.Generated
/-!
# C06 — Integers crossing the ABI boundary keep their value or the operation aborts
The theorems of `Props/C06Core.lean` (audited together with this file) plus the tie to the source by
translation.
-/
namespace Rlbox.C06
open Rlbox

/-! ## Tie to the source by translation: the `if constexpr` chain of rlbox_conversion.hpp is parsed on every
run into `Generated.convChain`; `convertFund` IS its meaning, so every theorem above is about the chain the
source contains now (a merged, reordered or dropped branch or check breaks `chainChecks_eq`). -/

open Rlbox.ConvChain in
/-- which dynamic checks guard the final cast, per pair of types (what the model's `convertFund` encodes) -/
def expectedChecks (to fr : IntTy) : List Chk :=
  if to.signed = fr.signed ∧ to.bytes ≥ fr.bytes then []
  else if ¬ to.signed ∧ ¬ fr.signed then [.leToMax]
  else if to.signed ∧ fr.signed then [.geToMin, .leToMax]
  else if ¬ to.signed ∧ fr.signed then (if to.bytes < fr.bytes then [.geZero, .leToMaxAsFrom] else [.geZero])
  else (if to.bytes ≤ fr.bytes then [.leToMaxAsFrom] else [])

open Rlbox.ConvChain in
/-- same checks, in any order, duplicates allowed -/
def sameChecks (a b : List Chk) : Bool := a.all (· ∈ b) && b.all (· ∈ a)

open Rlbox.ConvChain in
/-- for every pair of integer types the translated chain selects exactly the checks the model encodes.
Proved by full case analysis (signedness of both types x ordering of their sizes), so it does not
depend on how the source spells or orders its mutually exclusive branches. -/
theorem chainChecks_eq (to fr : IntTy) : sameChecks (chainChecks to fr Generated.convChain) (expectedChecks to fr) = true := by
  obtain ⟨ts, tb, tB⟩ := to
  obtain ⟨fs, fb, fB⟩ := fr
  -- all that the conditions of either side can see of the sizes: which way each comparison goes
  have cmp : (tb < fb ∧ ¬ fb ≤ tb ∧ tb ≤ fb ∧ ¬ fb < tb ∧ ¬ tb = fb) ∨ tb = fb ∨
      (fb < tb ∧ fb ≤ tb ∧ ¬ tb ≤ fb ∧ ¬ tb < fb ∧ ¬ tb = fb) := by omega
  rcases cmp with h | h | h <;> cases ts <;> cases fs <;>
    simp [Generated.convChain, chainChecks, bodyChecks, subChecks, Atom.holds, expectedChecks, sameChecks, h]

open Rlbox.ConvChain in
theorem checksPass_congr (to fr : IntTy) (v : Int) (a b : List Chk) (h : sameChecks a b = true) :
    checksPass to fr v a = checksPass to fr v b := by
  unfold sameChecks at h
  simp only [Bool.and_eq_true, List.all_eq_true, decide_eq_true_eq] at h
  unfold checksPass
  rw [Bool.eq_iff_iff, List.all_eq_true, List.all_eq_true]
  exact ⟨fun ha c hc => ha c (h.2 c hc), fun hb c hc => hb c (h.1 c hc)⟩

open Rlbox.ConvChain in
/-- `convertFund` and `expectedChecks` are the same decision tree, and evaluating the check list at a leaf of the
second gives the leaf of the first -/
theorem convertFund_eq_checks (to fr : IntTy) (v : Int) :
    convertFund to fr v = if checksPass to fr v (expectedChecks to fr) then some (to.cast v) else none := by
  unfold convertFund expectedChecks
  simp only [apply_ite (fun cs => if checksPass to fr v cs then some (to.cast v) else none)]
  simp only [checksPass, List.all_cons, List.all_nil, Chk.holds, Bool.and_true, Bool.and_eq_true, decide_eq_true_eq,
    if_true]

open Rlbox.ConvChain in
/-- the model function about which C06 is proved is the meaning of the chain TRANSLATED from the source -/
theorem C06_model_is_translated_source (to fr : IntTy) (v : Int) :
    convertFund to fr v = evalChain Generated.convChain to fr v := by
  unfold evalChain
  rw [convertFund_eq_checks, checksPass_congr to fr v _ _ (chainChecks_eq to fr)]

open Rlbox.ConvChain in
/-- C06 stated directly about the translated chain -/
theorem C06_translated_chain_faithful (abi : Abi) (habi : abi.wf) (t : BaseTy) (v : Int) (hv : t.app.inRange v) :
    (evalChain Generated.convChain (t.guest abi) t.app v = some v ∧ (t.guest abi).inRange v) ∨
    (evalChain Generated.convChain (t.guest abi) t.app v = none ∧ ¬ (t.guest abi).inRange v) := by
  rw [← C06_model_is_translated_source]
  exact (C06_abi_pairs abi habi t v).1 hv

end Rlbox.C06
