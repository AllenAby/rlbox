import RlboxModel.Tokens
import RlboxModel.Lemmas.LifeLemmas
/-!
# C15 — App-pointer tokens are non-zero, bounded, unique and resolve to their pointer
Property theorems only. All statements hold for every limit `max` and every table state that
satisfies the invariant; `C15_inv` shows every reachable state does (any history, any length).
-/
namespace Rlbox.C15
open Rlbox

/-- the token allocator's loop is the callback table's loop (`scanIdx`, `Lifecycle.lean`) looking for a free entry -/
theorem scan_eq_scanIdx (used : Nat → Option Nat) (i f : Nat) :
    scan used i f = scanIdx (fun t => used t = none) i f := by
  induction f generalizing i with
  | zero => rfl
  | succ f ih => simp only [scan, scanIdx, ih, decide_eq_true_eq]

/-- `scan` returns the first free token of its span -/
theorem scan_some (used : Nat → Option Nat) (i f t : Nat) (h : scan used i f = some t) :
    i ≤ t ∧ t < i + f ∧ used t = none :=
  have ⟨a, b, c⟩ := scanIdx_some _ i f t (scan_eq_scanIdx used i f ▸ h)
  ⟨a, b, of_decide_eq_true c⟩

theorem scan_none (used : Nat → Option Nat) (i f : Nat) :
    scan used i f = none ↔ ∀ j, i ≤ j → j < i + f → used j ≠ none := by
  simp [scan_eq_scanIdx, scanIdx_none]

/-- the table invariant: token 0 is permanently reserved, the cursor stays in `[1, max+1]` -/
def Inv (max : Nat) (m : TokMap) : Prop := m.used 0 ≠ none ∧ 1 ≤ m.counter ∧ m.counter ≤ max + 1

theorem inv_init (max : Nat) : Inv max TokMap.init := by
  simp [Inv, TokMap.init]

theorem getUnused_spec (m : TokMap) (max t : Nat) (hi : Inv max m) (h : getUnused m max = some t) :
    1 ≤ t ∧ t ≤ max ∧ m.used t = none := by
  obtain ⟨_, h1, h2⟩ := hi
  unfold getUnused at h
  split at h
  · rename_i i hs; cases h
    obtain ⟨a, b, c⟩ := scan_some _ _ _ _ hs
    exact ⟨by omega, by omega, c⟩
  · obtain ⟨a, b, c⟩ := scan_some _ _ _ _ h
    exact ⟨by omega, by omega, c⟩

theorem getUnused_none (m : TokMap) (max : Nat) (hi : Inv max m) :
    getUnused m max = none ↔ ∀ t, 1 ≤ t → t ≤ max → m.used t ≠ none := by
  obtain ⟨_, h1, h2⟩ := hi
  unfold getUnused
  split
  · rename_i i hs
    simp only [reduceCtorEq, false_iff]
    obtain ⟨a, b, c⟩ := scan_some _ _ _ _ hs
    intro h; exact h i (by omega) (by omega) c
  · rename_i hs
    rw [scan_none] at hs ⊢
    constructor
    · intro h t ht1 ht2
      by_cases hc : t < m.counter
      · exact h t ht1 (by omega)
      · exact hs t (by omega) (by omega)
    · intro h j hj1 hj2; exact h j hj1 (by omega)

/-- A registration yields a token that is non-zero, within the limit and free at that moment (hence
different from every currently registered token); the table then maps exactly that token to the
pointer and is otherwise unchanged; the invariant is kept. -/
theorem C15_token (m m' : TokMap) (max p t : Nat) (hi : Inv max m)
    (h : m.register max p = some (t, m')) :
    1 ≤ t ∧ t ≤ max ∧ m.used t = none ∧ m'.lookup t = some p ∧
    (∀ t', t' ≠ t → m'.lookup t' = m.lookup t') ∧ Inv max m' := by
  unfold TokMap.register at h
  cases hg : getUnused m max with
  | none => simp [hg] at h
  | some i =>
    simp only [hg, Option.some.injEq, Prod.mk.injEq] at h
    obtain ⟨rfl, rfl⟩ := h
    obtain ⟨a, b, c⟩ := getUnused_spec m max i hi hg
    refine ⟨a, b, c, by simp [TokMap.lookup, updateFn], ?_, ?_⟩
    · intro t' ht; simp [TokMap.lookup, updateFn, ht]
    · refine ⟨?_, by simp, by simp; omega⟩
      have : (0 : Nat) ≠ i := by omega
      simp [updateFn, this]; exact hi.1

/-- Registration aborts exactly when every token `1..max` is in use -- never a duplicate. -/
theorem C15_exhausted (m : TokMap) (max p : Nat) (hi : Inv max m) :
    m.register max p = none ↔ ∀ t, 1 ≤ t → t ≤ max → m.used t ≠ none := by
  rw [← getUnused_none m max hi]
  unfold TokMap.register
  cases getUnused m max <;> simp

/-- Lookup returns the registered pointer until the token is released; afterwards it aborts and the
token is free again; releasing an unknown token aborts; other tokens are unaffected. -/
theorem C15_lookup (m m' : TokMap) (t : Nat) (h : m.remove t = some m') :
    m.lookup t ≠ none ∧ m'.lookup t = none ∧ (∀ t', t' ≠ t → m'.lookup t' = m.lookup t') ∧ m'.counter = m.counter := by
  unfold TokMap.remove at h
  split at h
  · cases h
  · rename_i hu; cases h
    refine ⟨hu, by simp [TokMap.lookup, updateFn], ?_, rfl⟩
    intro t' ht; simp [TokMap.lookup, updateFn, ht]

theorem C15_remove_unknown (m : TokMap) (t : Nat) : m.remove t = none ↔ m.lookup t = none := by
  unfold TokMap.remove TokMap.lookup; split <;> simp_all

theorem remove_inv (m m' : TokMap) (max t : Nat) (hi : Inv max m) (ht : t ≠ 0) (h : m.remove t = some m') : Inv max m' := by
  unfold TokMap.remove at h
  split at h
  · cases h
  · cases h
    refine ⟨?_, hi.2.1, hi.2.2⟩
    have : (0 : Nat) ≠ t := fun e => ht e.symm
    simp [updateFn, this]; exact hi.1

/-- The invariant holds in every reachable state: any sequence of registrations and releases of
non-zero tokens (token 0 is never handed out, `C15_token`), any length, any limit. -/
theorem C15_inv (max : Nat) (ops : List TokOp) (hz : ∀ op ∈ ops, op ≠ TokOp.rel 0) :
    Inv max (ops.foldl (fun m op => m.step max op) TokMap.init) :=
  List.foldlRecOn (motive := Inv max) ops _ (inv_init max) fun m hm op hop => by
    cases op with
    | reg p =>
      simp only [TokMap.step]; split
      · next t m' hr => exact (C15_token m m' max p t hm hr).2.2.2.2.2
      · exact hm
    | rel t =>
      simp only [TokMap.step]; split
      · next m' hr => exact remove_inv m m' max t hm (fun e => hz _ hop (e ▸ rfl)) hr
      · exact hm

/-! ## Owners -/

/-- every non-empty owner holds a live token and no two owners hold the same token -/
def OwnInv (max : Nat) (s : OwnState) : Prop :=
  Inv max s.map ∧ (∀ o, s.owners o ≠ 0 → s.map.used (s.owners o) ≠ none) ∧
  (∀ o1 o2, o1 ≠ o2 → s.owners o1 ≠ 0 → s.owners o1 ≠ s.owners o2)

theorem release_spec (max : Nat) (s s' : OwnState) (o : Nat) (hi : OwnInv max s) (h : s.release o = some s') :
    OwnInv max s' ∧ s'.owners o = 0 ∧ (∀ o', o' ≠ o → s'.owners o' = s.owners o') ∧
    (s.owners o ≠ 0 → s'.map.lookup (s.owners o) = none) ∧
    (∀ t, t ≠ s.owners o → s'.map.lookup t = s.map.lookup t) := by
  obtain ⟨hm, hl, hu⟩ := hi
  unfold OwnState.release at h
  split at h
  · rename_i h0; cases h
    exact ⟨⟨hm, hl, hu⟩, h0, fun _ _ => rfl, fun hne => absurd h0 hne, fun _ _ => rfl⟩
  · rename_i h0
    cases hr : s.map.remove (s.owners o) with
    | none => simp [hr] at h
    | some m' =>
      simp only [hr, Option.some.injEq] at h; subst h
      obtain ⟨_, l2, l3, _⟩ := C15_lookup s.map m' (s.owners o) hr
      -- an owner that still holds something is not `o`, so its token is not the one removed
      have other : ∀ {o'}, setOwner s.owners o 0 o' ≠ 0 → o' ≠ o := fun ho' e => ho' (by simp [setOwner, e])
      refine ⟨⟨remove_inv s.map m' max _ hm h0 hr, fun o' ho' => ?_, fun o1 o2 hne h1 => ?_⟩, by simp [setOwner],
        fun o' ho' => by simp [setOwner, ho'], fun _ => l2, l3⟩
      · have e := other ho'
        simp only [setOwner, e, if_false] at ho' ⊢
        exact fun a => hl o' ho' ((l3 _ (hu o' o e ho')).symm.trans a)
      · have e := other h1
        simp only [setOwner, e, if_false] at h1 ⊢
        split
        · exact h1
        · exact hu o1 o2 hne h1

/-- renaming the owner variables one-to-one keeps the invariant -/
theorem ownInv_reindex {max : Nat} {s : OwnState} (π : Nat → Nat) (hπ : ∀ a b, π a = π b → a = b) (hi : OwnInv max s) :
    OwnInv max ⟨s.map, fun o => s.owners (π o)⟩ :=
  ⟨hi.1, fun _ h => hi.2.1 _ h, fun _ _ hne h => hi.2.2 _ _ (fun e => hne (hπ _ _ e)) h⟩

/-- Moving an owner transfers the token and leaves the source inert; overwriting an owner releases
what it held (lookup of that token aborts afterwards); nothing else changes. -/
theorem C15_owner_move (max : Nat) (s s' : OwnState) (dst src : Nat) (hne : dst ≠ src) (hi : OwnInv max s)
    (h : s.step max (.moveAssign dst src) = some s') :
    OwnInv max s' ∧ s'.owners dst = s.owners src ∧ s'.owners src = 0 ∧
    (s.owners dst ≠ 0 → s'.map.lookup (s.owners dst) = none) ∧
    (∀ t, t ≠ s.owners dst → s'.map.lookup t = s.map.lookup t) := by
  simp only [OwnState.step, hne, if_false] at h
  cases hr : s.release dst with
  | none => simp [hr] at h
  | some s1 =>
    simp only [hr, Option.some.injEq] at h; subst h
    obtain ⟨i1, r0, rother, rfree, rkeep⟩ := release_spec max s s1 dst hi hr
    refine ⟨?_, by simp [setOwner, hne, rother src hne.symm], by simp [setOwner], rfree, rkeep⟩
    -- `dst` is empty after the release, so the move just exchanges the contents of `dst` and `src`
    have := ownInv_reindex (swap src dst) (fun a b h => by rw [← swap_swap src dst a, h, swap_swap]) i1
    refine cast (congrArg (fun f => OwnInv max ⟨s1.map, f⟩) (funext fun o => ?_)) this
    by_cases e1 : o = src <;> by_cases e2 : o = dst <;> simp [swap, setOwner, e1, e2, r0, hne]

/-- Destroying / unregistering an owner releases its token. -/
theorem C15_owner_release (max : Nat) (s s' : OwnState) (o : Nat) (hi : OwnInv max s)
    (h : s.step max (.unregister o) = some s') :
    OwnInv max s' ∧ s'.owners o = 0 ∧ (s.owners o ≠ 0 → s'.map.lookup (s.owners o) = none) := by
  simp only [OwnState.step] at h
  obtain ⟨a, b, _, d, _⟩ := release_spec max s s' o hi h
  exact ⟨a, b, d⟩

/-- non-vacuity: a reachable state with two live tokens, exhaustion at limit 2, reuse after release -/
example :
    let m0 := TokMap.init
    let r1 := m0.register 2 111
    (r1.map (·.1) = some 1) ∧
    ((r1.bind fun (_, m1) => m1.register 2 222).map (·.1) = some 2) ∧
    ((r1.bind fun (_, m1) => (m1.register 2 222).bind fun (_, m2) => m2.register 2 333).isNone = true) ∧
    ((r1.bind fun (_, m1) => (m1.register 2 222).bind fun (_, m2) => (m2.remove 1).bind fun m3 => m3.register 2 333).map (·.1) = some 1) := by
  decide

end Rlbox.C15
