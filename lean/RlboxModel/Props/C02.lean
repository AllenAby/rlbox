import RlboxModel.Lemmas.Arith
import RlboxModel.GeneratedTyping
/-!
# C02 — Application pointers and foreign-sandbox data cannot enter a sandbox unchecked
Property theorems only.  Compile-time half: the verdict table regenerated from the compiler on
every run.  Run-time half: the two checked entry points.
-/
namespace Rlbox.C02
open Rlbox

def sinks : List (String × Bool × Bool) := GeneratedTyping.c02

/-- the shapes the property forbids (fixed here, so the generator cannot silently drop one) -/
def forbiddenShapes : List String :=
  ["tainted_ptr_init_from_raw", "tainted_ptr_ctor_from_raw", "tainted_ptr_assign_from_raw",
   "tainted_fn_init_from_raw", "tainted_vp_init_from_raw", "tvol_ptr_assign_from_raw", "tvol_fn_assign_from_raw",
   "tvol_ptrarr_assign_from_raw_carr", "tvol_ptrarr_assign_from_raw_stdarr", "tvol_int_assign_from_raw_ptr",
   "tainted_int_init_from_raw_ptr", "tainted_from_other_sandbox", "tvol_assign_from_other_sandbox",
   "invoke_raw_ptr_arg", "invoke_raw_fn_arg", "invoke_raw_struct_arg", "invoke_other_sandbox_arg",
   "invoke_other_sandbox_int_arg", "invoke_callback_wrong_sig", "register_cb_no_sandbox_param",
   "register_cb_no_params", "register_cb_plain_param", "register_cb_raw_ptr_param", "register_cb_plain_return",
   "register_cb_raw_ptr_return", "register_cb_array_param", "register_cb_other_sandbox_ref",
   "register_cb_other_sandbox_param", "register_cb_hint_param", "callback_into_tainted",
   "callback_into_tvol_wrong_type", "fn_address_into_tvol_wrong_type", "assign_raw_pointer_non_pointer",
   "accept_pointer_non_pointer", "free_raw_pointer", "tainted_from_other_sandbox_tvol",
   "tainted_int_from_other_sandbox", "tainted_assign_from_other_sandbox", "tvol_assign_from_other_sandbox_tvol",
   "tvol_int_assign_from_other_sandbox", "tvol_int_assign_from_other_sandbox_tvol",
   "tvol_arr_assign_from_other_sandbox", "tvol_struct_assign_from_other_sandbox",
   "tvol_structfield_assign_from_other_sandbox", "callback_other_sandbox_into_tvol",
   "invoke_other_sandbox_callback_arg", "invoke_other_sandbox_opaque_arg", "invoke_other_sandbox_tvol_arg",
   "invoke_other_sandbox_struct_arg", "invoke_fn_address_wrong_sig", "fn_address_into_tainted_wrong_type",
   "fn_address_tvol_into_tvol_wrong_type", "register_cb_tvol_param", "register_cb_other_sandbox_return",
   "register_cb_raw_fn_param", "register_cb_sandbox_by_value", "callback_return_raw_ptr_via_tainted",
   "tainted_struct_field_from_raw", "tvol_struct_field_from_raw", "tainted_ptrarr_elem_from_raw",
   "tvol_ptrarr_elem_from_raw", "tvol_deref_store_raw", "tvol_index_store_raw", "invoke_raw_array_arg",
   "invoke_raw_string_arg", "invoke_app_pointer_wrong_sandbox", "internal_factory_raw_ptr",
   "internal_factory_raw_fn", "tagged_ctor_raw_ptr", "tainted_raw_value_ref_write", "tvol_sandbox_value_ref_write",
   "tvol_default_ctor", "tvol_copy_ctor", "tainted_reinterpret_from_raw",
   "reinterpret_cast_int_to_ptr", "reinterpret_cast_tvol_int_to_ptr", "static_cast_int_to_ptr", "const_cast_int_to_ptr",
   "tainted_ptr_init_from_tainted_int",
   "tainted_int_plus_plain_ptr", "tvol_int_plus_plain_ptr", "plain_ptr_plus_tainted_int", "plain_ptr_minus_tainted_int"]

def accepts (name : String) : Option Bool := (sinks.find? fun r => r.1 == name).map fun r => r.2.2

/-- Equal strings have equal sizes, so `==` may look at the sizes first.  The kernel decodes a string
literal into bytes once and remembers its size as a numeral, but walks both byte lists afresh at every
`==`; with the sizes in front almost every one of the ~37,000 comparisons below is between numerals. -/
theorem beq_size_and (a b : String) : (a == b) = (a.utf8ByteSize == b.utf8ByteSize && a == b) := by
  by_cases h : a = b <;> simp [h]

theorem accepts_eq (name : String) : accepts name =
    (sinks.find? fun r => r.1.utf8ByteSize == name.utf8ByteSize && r.1 == name).map fun r => r.2.2 := by
  simp only [accepts, ← beq_size_and]

/-- every forbidden shape is rejected for both sandbox types (one evaluation: the names are decoded once) -/
theorem forbidden_both :
    forbiddenShapes.all (fun n => accepts n == some false && accepts (n ++ "@B") == some false) = true := by
  simp only [accepts_eq]
  decide +kernel

/-- **C02, compile-time half**: every forbidden shape is present in the regenerated table and the
compiler rejects it. -/
theorem C02_forbidden_rejected : forbiddenShapes.all (fun n => accepts n == some false) = true :=
  List.all_eq_true.2 fun n hn => (Bool.and_eq_true_iff.1 (List.all_eq_true.1 forbidden_both n hn)).1

/-- the same shapes with the two sandbox types exchanged (target sandbox with guest pointers as wide
as the application's, where a bit copy of a pointer would "fit") -/
theorem C02_forbidden_rejected_wide_ptr : forbiddenShapes.all (fun n => accepts (n ++ "@B") == some false) = true :=
  List.all_eq_true.2 fun n hn => (Bool.and_eq_true_iff.1 (List.all_eq_true.1 forbidden_both n hn)).2

/-- every row the generator marks forbidden is rejected (covers rows added to the generator later) -/
theorem C02_table_forbidden_rejected : sinks.all (fun r => !r.2.1 || !r.2.2) = true := by decide +kernel

/-- positive controls: the permitted neighbours of each forbidden shape do compile, so the rejections
above are not an artefact of a broken prelude -/
theorem C02_controls_accepted : sinks.all (fun r => r.2.1 || r.2.2) = true ∧ (sinks.filter fun r => !r.2.1).length ≥ 40 := by
  decide +kernel

/-- **C02, run-time half**: the checked entry points accept an address only if it lies inside THAT
sandbox's memory, and then keep exactly that address. -/
theorem C02_checked_entry (s : Sbx) (a v : Nat) (h : acceptPointer s a = some v) : s.region.contains a ∧ v = a := by
  obtain ⟨hc, rfl⟩ := Option.ite_some_none_eq_some.1 h
  exact ⟨hc, rfl⟩

theorem C02_checked_entry_aborts (s : Sbx) (a : Nat) (h : ¬ s.region.contains a) :
    acceptPointer s a = none ∧ acceptPointerVol s a = none := by
  unfold acceptPointer acceptPointerVol
  simp [h]

/-- null is never inside (regions start above address 0), so both entry points refuse it -/
theorem C02_null_refused (s : Sbx) (hs : s.region.wf) : acceptPointer s 0 = none := by
  exact (C02_checked_entry_aborts s 0 fun h => h.ne_zero hs rfl).1

/-- an address inside ANOTHER live sandbox (disjoint region) is refused -/
theorem C02_other_sandbox_refused (s t : Sbx) (a : Nat) (ht : t.region.contains a)
    (hd : s.region.base + 2 ^ s.region.k ≤ t.region.base ∨ t.region.base + 2 ^ t.region.k ≤ s.region.base) :
    acceptPointer s a = none := by
  have : ¬ s.region.contains a := by
    unfold Region.contains at *; omega
  exact (C02_checked_entry_aborts s a this).1

/-- the `tainted_volatile` flavour stores the offset of that address within the sandbox -/
theorem C02_checked_entry_vol (s : Sbx) (hk : s.region.k ≤ 8 * s.ptrBytes) (hw : s.region.wf) (a v : Nat)
    (h : acceptPointerVol s a = some v) : s.region.contains a ∧ v = a - s.region.base ∧ v < 2 ^ s.region.k := by
  obtain ⟨hc, rfl⟩ := Option.ite_some_none_eq_some.1 h
  rw [toGuest_of_contains hw hk hc]
  exact ⟨hc, rfl, Nat.sub_lt_left_of_lt_add hc.1 hc.2⟩

/-- non-vacuity -/
example : acceptPointer ⟨⟨16, 0x6a0000000000⟩, 4⟩ (0x6a0000000000 + 4096) = some (0x6a0000000000 + 4096) := by decide
example : acceptPointer ⟨⟨16, 0x6a0000000000⟩, 4⟩ (0x6a0000000000 + 65536) = none := by decide

end Rlbox.C02
