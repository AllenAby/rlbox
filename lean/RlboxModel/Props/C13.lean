import RlboxModel.Lemmas.LifeLemmas
/-!
# C13 — Callback registrations have exactly one owner and end when that owner does
Property theorems only.
-/
namespace Rlbox.C13
open Rlbox

/-- the ownership invariant: for every sandbox object the registered keys, the functions reachable
through the backend's entry-point table and the functions held by owner objects *whose registration
was made in the current incarnation of the sandbox* are the same set; table entries and owners are
unique; an owner never carries an incarnation number from the future; only a created sandbox has
registrations. -/
structure Inv (w : World) : Prop where
  keysOwned : ∀ i f, (w.sbx i).keys f = true ↔ ∃ o, w.owners o = some (i, f, (w.sbx i).inc)
  keysSlots : ∀ i f, (w.sbx i).keys f = true ↔ ∃ k, k < w.max ∧ (w.sbx i).slots k = some f
  slotsUniq : ∀ i k1 k2 f, k1 < w.max → k2 < w.max → (w.sbx i).slots k1 = some f → (w.sbx i).slots k2 = some f → k1 = k2
  ownersUniq : ∀ o1 o2 x, w.owners o1 = some x → w.owners o2 = some x → o1 = o2
  ownersLe : ∀ o i f n, w.owners o = some (i, f, n) → n ≤ (w.sbx i).inc
  keysCreated : ∀ i f, (w.sbx i).keys f = true → (w.sbx i).status = .created

theorem inv_init (m : Nat) : Inv (World.init m) := by
  constructor <;> simp [World.init]

/-- the owner holds a live registration of function `f` with sandbox `i`: made in the current
incarnation of a sandbox that is created -/
def holdsLive (w : World) (o i f : Nat) : Prop :=
  w.owners o = some (i, f, (w.sbx i).inc) ∧ (w.sbx i).status = .created

/-- Registering a function that is already registered aborts. -/
theorem C13_no_dup (w : World) (i o f : Nat) (h : (w.sbx i).keys f = true) : w.register i o f = none := by
  simp [World.register, World.registerNew, h]

/-- A registration for which the backend has no free entry point is refused. -/
theorem C13_full_refused (w : World) (i o f : Nat) (h : ∀ k, k < w.max → (w.sbx i).slots k ≠ none) :
    w.register i o f = none := by
  simp [World.register, World.registerNew, firstFree_none.2 h]

/-- Releasing an owner (unregister / destructor / being overwritten) never aborts in a state that
satisfies the invariant, keeps the invariant, empties the owner, and removes exactly its function
from the registered set if the registration was live; a stale owner (its sandbox was destroyed, and
possibly created again, since) changes nothing but itself. -/
theorem release_total (w : World) (o : Nat) (hi : Inv w) : ∃ w', w.release o = some w' := by
  unfold World.release
  split
  · exact ⟨_, rfl⟩
  · next i f n ho =>
    dsimp only
    split
    · exact ⟨_, rfl⟩
    · next hst =>
      obtain ⟨_, rfl⟩ : (w.sbx i).status = .created ∧ (w.sbx i).inc = n := by simpa using hst
      simp [(hi.keysOwned i f).2 ⟨o, ho⟩]

/-- What `release o` does to a state that satisfies the invariant: owner `o` becomes empty, and a function
leaves a key set and an entry-point table exactly if `o` held a live registration of it there; status
words, incarnation numbers and everything else stay (`life`). -/
theorem release_effect {w w' : World} {o : Nat} (hi : Inv w) (h : w.release o = some w') :
    w'.life = w.life ∧ (∀ p, w'.owners p = if p = o then none else w.owners p) ∧
    (∀ j g, (w'.sbx j).keys g = true ↔ (w.sbx j).keys g = true ∧ ¬holdsLive w o j g) ∧
    (∀ j k g, k < w.max → ((w'.sbx j).slots k = some g ↔ (w.sbx j).slots k = some g ∧ ¬holdsLive w o j g)) := by
  refine ⟨release_life h, ?_⟩
  rcases release_cases h with ⟨dead, rfl⟩ | ⟨i, f, ho, hc, hk, rfl⟩
  · exact ⟨fun p => rfl, fun j g => (and_iff_left fun a => dead j g a.1 a.2).symm,
      fun j k g _ => (and_iff_left fun a => dead j g a.1 a.2).symm⟩
  · have live : ∀ j g, holdsLive w o j g ↔ j = i ∧ g = f := fun j g =>
      ⟨fun hl => by have e := hl.1; rw [ho] at e; cases e; exact ⟨rfl, rfl⟩, fun ⟨ej, eg⟩ => ej ▸ eg ▸ ⟨ho, hc⟩⟩
    obtain ⟨k, hk1, hk2⟩ := (hi.keysSlots i f).1 hk
    obtain ⟨k, hs, hkm, hsk⟩ := slotOf_some hk1 hk2
    refine ⟨fun p => rfl, fun j g => ?_, fun j k' g hk' => ?_⟩
    · rw [live, setS_sbx, setO_sbx]
      by_cases ej : j = i <;> by_cases eg : g = f <;> simp [ej, eg, releasedObj_keys]
    · rw [live, setS_sbx, setO_sbx]
      split
      · next ej =>
        subst ej
        rw [releasedObj_slots w j f k hs, Option.ite_none_left_eq_some, and_comm]
        -- the cleared index is the only one that holds `f`
        refine and_congr_right fun e => not_congr ⟨fun ek => ⟨rfl, ?_⟩, fun eg => ?_⟩
        · rw [ek, hsk] at e; exact (Option.some.inj e).symm
        · exact hi.slotsUniq j k' k f hk' hkm (eg.2 ▸ e) hsk
      · next ej => exact (and_iff_left fun a => ej a.1).symm

/-- a key that `o` held live is gone once the keys have changed as in `release_effect` -/
theorem keys_false_of_live {w w' : World} {o i f : Nat} (hi : Inv w)
    (hkeys : ∀ j g, (w'.sbx j).keys g = true ↔ (w.sbx j).keys g = true ∧ ¬holdsLive w o j g)
    (ho : w.owners o = some (i, f, (w.sbx i).inc)) : (w'.sbx i).keys f = false :=
  Bool.eq_false_iff.2 fun e => ((hkeys i f).1 e).2 ⟨ho, hi.keysCreated i f ((hkeys i f).1 e).1⟩

theorem release_inv (w w' : World) (o : Nat) (hi : Inv w) (h : w.release o = some w') :
    Inv w' ∧ w'.owners o = none ∧ (∀ p, p ≠ o → w'.owners p = w.owners p) ∧ w'.max = w.max ∧
    (∀ i f, w.owners o = some (i, f, (w.sbx i).inc) → (w'.sbx i).keys f = false) ∧
    (∀ i g, w.owners o ≠ some (i, g, (w.sbx i).inc) → (w'.sbx i).keys g = (w.sbx i).keys g) ∧
    (∀ j, (w'.sbx j).status = (w.sbx j).status ∧ (w'.sbx j).inc = (w.sbx j).inc) := by
  obtain ⟨hl, hown, hkeys, hslots⟩ := release_effect hi h
  have hown' : ∀ {p x}, w'.owners p = some x → p ≠ o ∧ w.owners p = some x := fun e => by
    rwa [hown, Option.ite_none_left_eq_some] at e
  refine ⟨⟨fun j g => ?_, fun j g => ?_, ?_, ?_, ?_, ?_⟩, by simp [hown], fun p hp => by simp [hown, hp], life_max hl,
    fun i f => keys_false_of_live hi hkeys, fun i g hne => ?_, fun j => ⟨life_status hl j, life_inc hl j⟩⟩
  · -- a key that stays has an owner other than `o`, and an owner other than `o` does not hold what `o` holds
    rw [hkeys, life_inc hl, hi.keysOwned]
    constructor
    · rintro ⟨⟨p, hp⟩, nl⟩
      have ne : p ≠ o := fun e => nl ⟨e ▸ hp, hi.keysCreated j g ((hi.keysOwned j g).2 ⟨p, hp⟩)⟩
      exact ⟨p, by rw [hown, if_neg ne]; exact hp⟩
    · rintro ⟨p, hp⟩
      obtain ⟨ne, hp⟩ := hown' hp
      exact ⟨⟨p, hp⟩, fun hl => ne (hi.ownersUniq p o _ hp hl.1)⟩
  · rw [hkeys, life_max hl, hi.keysSlots]
    constructor
    · rintro ⟨⟨k, hk, e⟩, nl⟩; exact ⟨k, hk, (hslots j k g hk).2 ⟨e, nl⟩⟩
    · rintro ⟨k, hk, e⟩; exact ⟨⟨k, hk, ((hslots j k g hk).1 e).1⟩, ((hslots j k g hk).1 e).2⟩
  · intro j k1 k2 g h1 h2 e1 e2
    rw [life_max hl] at h1 h2
    exact hi.slotsUniq j k1 k2 g h1 h2 ((hslots j k1 g h1).1 e1).1 ((hslots j k2 g h2).1 e2).1
  · intro o1 o2 x e1 e2; exact hi.ownersUniq o1 o2 x (hown' e1).2 (hown' e2).2
  · intro p j g n e; rw [life_inc hl]; exact hi.ownersLe p j g n (hown' e).2
  · intro j g e; rw [life_status hl]; exact hi.keysCreated j g ((hkeys j g).1 e).1
  · rw [Bool.eq_iff_iff, hkeys]; exact and_iff_left fun hl => hne hl.1

/-- Unregistering / destroying / overwriting the owner of a live registration makes the function
registrable again: afterwards it is in nobody's key set. -/
theorem C13_release_reenables (w w' : World) (o i f : Nat) (hi : Inv w)
    (ho : w.owners o = some (i, f, (w.sbx i).inc)) (h : w.release o = some w') :
    (w'.sbx i).keys f = false ∧ w'.owners o = none ∧ Inv w' := by
  obtain ⟨a, b, _, _, e, _⟩ := release_inv w w' o hi h
  exact ⟨e i f ho, b, a⟩

/-- What `registerNew` does: owner `t` (empty before) now holds the registration, `f` is a key of `i` and
entry `k`, free before, designates it; nothing else changes. -/
theorem registerNew_effect {w w' : World} {i t f k : Nat} (ht : w.owners t = none)
    (h : w.registerNew i t f = some (w', k)) :
    w'.life = w.life ∧ (∀ p x, w'.owners p = some x ↔ w.owners p = some x ∨ p = t ∧ (i, f, (w.sbx i).inc) = x) ∧
    (∀ j g, (w'.sbx j).keys g = true ↔ (w.sbx j).keys g = true ∨ j = i ∧ g = f) ∧
    (∀ j k' g, (w'.sbx j).slots k' = some g ↔ (w.sbx j).slots k' = some g ∨ j = i ∧ k' = k ∧ f = g) := by
  obtain ⟨_, _, hff, rfl⟩ := registerNew_eq_some_iff.1 h
  refine ⟨(setS_life (s := registeredObj w i f k) rfl :), fun p x => ?_, fun j g => ?_, fun j k' g => ?_⟩
  · rw [setO_owners, setS_owners]
    by_cases e : p = t <;> simp [e, ht]
  · rw [setO_sbx, setS_sbx]
    by_cases ej : j = i <;> by_cases eg : g = f <;> simp [ej, eg, registeredObj]
  · rw [setO_sbx, setS_sbx]
    by_cases ej : j = i <;> by_cases ek : k' = k <;> simp [ej, ek, registeredObj, (firstFree_some hff).2]

/-- Recording a new registration in an empty owner `t` keeps the invariant. -/
theorem registerNew_inv (w w' : World) (i t f k : Nat) (hi : Inv w) (ht : w.owners t = none)
    (h : w.registerNew i t f = some (w', k)) :
    Inv w' ∧ w'.owners t = some (i, f, (w.sbx i).inc) ∧ (∀ p, p ≠ t → w'.owners p = w.owners p) ∧
    (w'.sbx i).keys f = true ∧ (w'.sbx i).slots k = some f ∧ k < w.max ∧ w'.max = w.max ∧
    (∀ j, (w'.sbx j).status = (w.sbx j).status ∧ (w'.sbx j).inc = (w.sbx j).inc) := by
  obtain ⟨hl, hown, hkeys, hslots⟩ := registerNew_effect ht h
  obtain ⟨hc, hkf, hff, ew⟩ := registerNew_eq_some_iff.1 h
  have hkm := (firstFree_some hff).1
  -- `f` is new in sandbox `i`: no owner holds it live, no entry point designates it
  have hno : ∀ p, w.owners p ≠ some (i, f, (w.sbx i).inc) := fun p hp => by
    simpa [hkf] using (hi.keysOwned i f).2 ⟨p, hp⟩
  have hnslot : ∀ k', k' < w.max → (w.sbx i).slots k' ≠ some f := fun k' hk' hs => by
    simpa [hkf] using (hi.keysSlots i f).2 ⟨k', hk', hs⟩
  refine ⟨⟨fun j g => ?_, fun j g => ?_, ?_, ?_, ?_, ?_⟩, (hown ..).2 (.inr ⟨rfl, rfl⟩), fun p hp => ew ▸ setO_other _ _ _ _ hp,
    (hkeys ..).2 (.inr ⟨rfl, rfl⟩), (hslots ..).2 (.inr ⟨rfl, rfl, rfl⟩), hkm, life_max hl,
    fun j => ⟨life_status hl j, life_inc hl j⟩⟩
  · rw [hkeys, life_inc hl, hi.keysOwned]; simp only [hown, exists_or, exists_eq_left]
    refine or_congr_right ⟨?_, fun e => ?_⟩
    · rintro ⟨rfl, rfl⟩; rfl
    · cases e; exact ⟨rfl, rfl⟩
  · rw [hkeys, life_max hl, hi.keysSlots]; simp only [hslots, and_or_left, exists_or]
    refine or_congr_right ⟨?_, ?_⟩
    · rintro ⟨rfl, rfl⟩; exact ⟨k, hkm, rfl, rfl, rfl⟩
    · rintro ⟨_, _, ej, _, eg⟩; exact ⟨ej, eg.symm⟩
  · intro j k1 k2 g h1 h2 e1 e2
    rw [life_max hl] at h1 h2
    rcases (hslots ..).1 e1 with a1 | ⟨rfl, rfl, rfl⟩ <;> rcases (hslots ..).1 e2 with a2 | ⟨ej, rfl, eg⟩
    · exact hi.slotsUniq j k1 k2 g h1 h2 a1 a2
    · subst ej eg; exact absurd a1 (hnslot k1 h1)
    · exact absurd a2 (hnslot k2 h2)
    · rfl
  · intro o1 o2 x e1 e2
    rcases (hown ..).1 e1 with a1 | ⟨rfl, rfl⟩ <;> rcases (hown ..).1 e2 with a2 | ⟨rfl, ex⟩
    · exact hi.ownersUniq o1 o2 x a1 a2
    · exact absurd (ex ▸ a1) (hno o1)
    · exact absurd a2 (hno o2)
    · rfl
  · intro p j g n e
    rw [life_inc hl]
    rcases (hown ..).1 e with e | ⟨_, e⟩
    · exact hi.ownersLe p j g n e
    · cases e; exact Nat.le_refl _
  · intro j g e
    rw [life_status hl]
    rcases (hkeys ..).1 e with e | ⟨rfl, _⟩
    · exact hi.keysCreated j g e
    · exact hc

/-- the invariant does not care what owner objects are called -/
theorem Inv.reindex {w : World} (hi : Inv w) (π : Nat → Nat) (hπ : ∀ o, π (π o) = o) :
    Inv { w with owners := fun o => w.owners (π o) } :=
  ⟨fun i f => (hi.keysOwned i f).trans ⟨fun ⟨o, h⟩ => ⟨π o, (congrArg w.owners (hπ o)).trans h⟩, fun ⟨o, h⟩ => ⟨π o, h⟩⟩,
   hi.keysSlots, hi.slotsUniq, fun o1 o2 x h1 h2 => by rw [← hπ o1, hi.ownersUniq _ _ x h1 h2, hπ],
   fun o => hi.ownersLe (π o), hi.keysCreated⟩

/-- handing what `src` holds over to an empty owner `dst` keeps the invariant -/
theorem Inv.handOver {w : World} (hi : Inv w) {dst src : Nat} (hne : dst ≠ src) (hd : w.owners dst = none) :
    Inv ((w.setO dst (w.owners src)).setO src none) := by
  -- `dst` is empty, so this only exchanges the contents of `dst` and `src`
  refine cast (congrArg (fun f => Inv { w with owners := f }) (funext fun o => ?_)) (hi.reindex _ (swap_swap dst src))
  by_cases e1 : o = src <;> by_cases e2 : o = dst <;> simp [swap, setO_owners, e1, e2, hd, hne, Ne.symm hne]

/-- What `dst = std::move(src)` does for distinct owners: what `dst` held is released (`release_effect`),
then `dst` takes over what `src` holds and `src` becomes empty. -/
theorem move_effect {w w' : World} {dst src : Nat} (hne : dst ≠ src) (hi : Inv w)
    (h : w.moveOwner dst src = some w') :
    Inv w' ∧ w'.life = w.life ∧
    (∀ p, w'.owners p = if p = src then none else if p = dst then w.owners src else w.owners p) ∧
    (∀ j g, (w'.sbx j).keys g = true ↔ (w.sbx j).keys g = true ∧ ¬holdsLive w dst j g) ∧
    (∀ j k g, k < w.max → ((w'.sbx j).slots k = some g ↔ (w.sbx j).slots k = some g ∧ ¬holdsLive w dst j g)) := by
  rw [moveOwner_ne hne, Option.map_eq_some_iff] at h
  obtain ⟨w1, hr, rfl⟩ := h
  obtain ⟨hl, hown, hkeys, hslots⟩ := release_effect hi hr
  refine ⟨(release_inv w w1 dst hi hr).1.handOver hne (by simp [hown]), hl, fun p => ?_, hkeys, hslots⟩
  simp only [setO_owners, hown, if_neg (Ne.symm hne)]
  by_cases e1 : p = src <;> by_cases e2 : p = dst <;> simp [e1, e2]

/-- Moving transfers ownership and leaves the source inert; what the destination held is released. -/
theorem C13_move_transfers (w w' : World) (dst src : Nat) (hne : dst ≠ src) (hi : Inv w)
    (h : w.moveOwner dst src = some w') :
    Inv w' ∧ w'.owners dst = w.owners src ∧ w'.owners src = none ∧
    (∀ p, p ≠ dst → p ≠ src → w'.owners p = w.owners p) ∧
    (∀ i f, w.owners dst = some (i, f, (w.sbx i).inc) → (w'.sbx i).keys f = false) ∧
    (∀ j, (w'.sbx j).status = (w.sbx j).status ∧ (w'.sbx j).inc = (w.sbx j).inc) := by
  obtain ⟨i', hl, hown, hkeys, _⟩ := move_effect hne hi h
  exact ⟨i', by simp [hown, hne], by simp [hown], fun p hd hs => by simp [hown, hd, hs],
    fun i f => keys_false_of_live hi hkeys, fun j => ⟨life_status hl j, life_inc hl j⟩⟩

/-- moving never aborts in a state that satisfies the invariant -/
theorem move_total (w : World) (d s : Nat) (hi : Inv w) : ∃ w', w.moveOwner d s = some w' := by
  by_cases e : d = s
  · exact ⟨w, e ▸ moveOwner_self w d⟩
  · obtain ⟨w1, h1⟩ := release_total w d hi
    exact ⟨_, by rw [moveOwner_ne e, h1]; rfl⟩

/-- the temporary returned by `register_callback` is empty between operations -/
def TmpFree (w : World) : Prop := w.owners tmpOwner = none

/-- A successful registration through `o = sandbox.register_callback(f)`: the invariant is kept,
owner `o` now holds a live registration of `f`, what `o` held before has been released, the entry
point designates `f`. -/
theorem C13_register (w w' : World) (i o f k : Nat) (hi : Inv w) (ht : TmpFree w) (ho : o ≠ tmpOwner)
    (h : w.register i o f = some (w', k)) :
    Inv w' ∧ TmpFree w' ∧ holdsLive w' o i f ∧ (w'.sbx i).slots k = some f ∧ k < w.max ∧
    (∀ i0 f0, w.owners o = some (i0, f0, (w.sbx i0).inc) → (i0, f0) ≠ (i, f) → (w'.sbx i0).keys f0 = false) := by
  obtain ⟨w1, hn, hm⟩ := register_eq_some_iff.1 h
  obtain ⟨i1, t1, oth1, _, s1, km, m1, st1⟩ := registerNew_inv w w1 i tmpOwner f k hi ht hn
  obtain ⟨i2, hl, hown, hkeys, hslots⟩ := move_effect ho i1 hm
  -- the temporary holds the new registration, so `o` does not, and releasing `o` leaves it alone
  have nl : ¬holdsLive w1 o i f := fun a => ho (i1.ownersUniq _ _ _ a.1 (by rw [t1, (st1 i).2]))
  refine ⟨i2, by simp [TmpFree, hown], ⟨?_, ?_⟩, (hslots i k f (m1 ▸ km)).2 ⟨s1, nl⟩, km, fun i0 f0 h0 _ => ?_⟩
  · rw [hown, if_neg ho, if_pos rfl, t1, life_inc hl, (st1 i).2]
  · rw [life_status hl, (st1 i).1]; exact (registerNew_eq_some_iff.1 hn).1
  · exact keys_false_of_live i1 hkeys (by rw [oth1 o ho, (st1 i0).2]; exact h0)

/-- a step that leaves owners, table size, keys, entry points and incarnation numbers alone, and no
created sandbox in another state, keeps the invariant -/
theorem inv_congr (w w' : World) (hi : Inv w) (ho : w'.owners = w.owners) (hm : w'.max = w.max)
    (hk : ∀ j, (w'.sbx j).keys = (w.sbx j).keys) (hs : ∀ j, (w'.sbx j).slots = (w.sbx j).slots)
    (hn : ∀ j, (w'.sbx j).inc = (w.sbx j).inc)
    (hc : ∀ j, (w.sbx j).status = .created → (w'.sbx j).status = .created) : Inv w' := by
  refine ⟨?_, ?_, ?_, ?_, ?_, ?_⟩
  · intro i f; rw [hk, hn, ho]; exact hi.keysOwned i f
  · intro i f; rw [hk, hs, hm]; exact hi.keysSlots i f
  · intro i k1 k2 f; rw [hs, hm]; exact hi.slotsUniq i k1 k2 f
  · intro o1 o2 x; rw [ho]; exact hi.ownersUniq o1 o2 x
  · intro o i f n; rw [ho, hn]; exact hi.ownersLe o i f n
  · intro i f; rw [hk]; exact fun e => hc i (hi.keysCreated i f e)

/-- `destroy_sandbox` ends every registration of the sandbox: the invariant holds afterwards whatever
owner objects are still alive (they are stale from now on). -/
theorem destroy_inv (w w' : World) (i : Nat) (hi : Inv w) (h : w.destroy i = some w') :
    Inv w' ∧ w'.owners = w.owners ∧ (∀ f, (w'.sbx i).keys f = false) ∧ (∀ k, (w'.sbx i).slots k = none) ∧
    (w'.sbx i).inc = (w.sbx i).inc + 1 := by
  obtain ⟨_, _, rfl⟩ := destroy_eq_some_iff.1 h
  refine ⟨⟨?_, ?_, ?_, hi.ownersUniq, fun o => ?_, ?_⟩, rfl, by simp [destroyedObj], by simp [destroyedObj], by simp [destroyedObj]⟩
  -- at `i` keys and table are empty, and the owners that held something there are stale now: `n ≤ inc < inc + 1`
  all_goals intro j; rcases setS_sbx_cases w i j with ⟨rfl, e⟩ | ⟨_, e⟩ <;> simp only [e]
  · exact fun f => ⟨nofun, fun ⟨o, ho⟩ => absurd (hi.ownersLe o j f _ ho) (Nat.not_succ_le_self _)⟩
  · exact hi.keysOwned j
  · exact fun f => ⟨nofun, fun ⟨k, _, e⟩ => nomatch e⟩
  · exact hi.keysSlots j
  · exact fun k1 k2 f _ _ e => nomatch e
  · exact hi.slotsUniq j
  · exact fun f n ho => Nat.le_succ_of_le (hi.ownersLe o j f n ho)
  · exact hi.ownersLe o j
  · exact fun f => nofun
  · exact hi.keysCreated j

/-- Application owner objects are not the temporary inside `register_callback` (a naming convention
of the model, not a restriction on histories). -/
def stepOk : LOp → Prop
  | .register _ o _ => o ≠ tmpOwner
  | .release o => o ≠ tmpOwner
  | .move d s => d ≠ tmpOwner ∧ s ≠ tmpOwner
  | _ => True

def histOk (ops : List LOp) : Prop := ∀ op ∈ ops, stepOk op

theorem step_inv (w : World) (op : LOp) (hi : Inv w) (ht : TmpFree w) (hok : stepOk op) :
    Inv (w.step op) ∧ TmpFree (w.step op) := by
  refine World.step_ind (P := fun op w' => stepOk op → Inv w' ∧ TmpFree w') w (fun _ _ => ⟨hi, ht⟩)
    ?_ ?_ ?_ ?_ ?_ ?_ op hok
  · intro i ok lib r w' b hc _
    obtain ⟨h1, _, _, rfl⟩ := create_eq_some_iff.1 hc
    refine ⟨inv_congr w _ hi rfl rfl (setS_proj (·.keys) rfl) (setS_proj (·.slots) rfl) (setS_proj (·.inc) rfl) ?_, ht⟩
    intro j hj; rcases setS_sbx_cases w i j with ⟨rfl, e⟩ | ⟨_, e⟩ <;> simp only [e]
    · rw [h1] at hj; cases hj
    · exact hj
  · intro i w' hd _
    obtain ⟨a, b, _⟩ := destroy_inv w w' i hi hd
    exact ⟨a, (congrFun b _).trans ht⟩
  · intro i o f w' k hr hok
    obtain ⟨a, b, _⟩ := C13_register w w' i o f k hi ht hok hr
    exact ⟨a, b⟩
  · intro o w' hr hok
    obtain ⟨a, _, oth, _⟩ := release_inv w w' o hi hr
    exact ⟨a, (oth _ (Ne.symm hok)).trans ht⟩
  · intro d s w' hm hok
    by_cases hds : d = s
    · rw [hds, moveOwner_self] at hm; cases hm; exact ⟨hi, ht⟩
    · obtain ⟨a, _, _, oth, _⟩ := C13_move_transfers w w' d s hds hi hm
      exact ⟨a, (oth _ (Ne.symm hok.1) (Ne.symm hok.2)).trans ht⟩
  · intro i n _
    rcases lookup_fst w i n with e | ⟨c, e⟩ <;> rw [e]
    · exact ⟨hi, ht⟩
    · exact ⟨inv_congr w _ hi rfl rfl (setS_proj (·.keys) rfl) (setS_proj (·.slots) rfl) (setS_proj (·.inc) rfl)
        (fun j hj => (setS_proj (·.status) (by rfl) j).trans hj), ht⟩

/-- **C13, every history.** After any sequence of register / unregister / destroy-owner / move /
destroy_sandbox / create_sandbox / lookup operations, of any length, on any number of sandbox
objects and owner objects and any backend table size, the ownership invariant holds -- including
histories in which owner objects outlive `destroy_sandbox` and the sandbox is created again
(before the repair of F6b this was false, see `known_findings.json`). -/
theorem C13_inv (m : Nat) (ops : List LOp) (hok : histOk ops) :
    Inv (ops.foldl World.step (World.init m)) :=
  (List.foldlRecOn (motive := fun w => Inv w ∧ TmpFree w) ops World.step ⟨inv_init m, rfl⟩
    fun w hw op hop => step_inv w op hw.1 hw.2 (hok op hop)).1

/-- in a state that satisfies the invariant, the functions reachable through the entry-point table of
`i` are those that some owner holds through a live registration -/
theorem Inv.slot_iff_live {w : World} (hi : Inv w) (i f : Nat) :
    (∃ k, k < w.max ∧ (w.sbx i).slots k = some f) ↔ ∃ o, holdsLive w o i f :=
  (hi.keysSlots i f).symm.trans
    ⟨fun hk => ((hi.keysOwned i f).1 hk).imp fun o ho => ⟨ho, hi.keysCreated i f hk⟩,
      fun ⟨o, ho, _⟩ => (hi.keysOwned i f).2 ⟨o, ho⟩⟩

/-- The set of functions reachable from sandbox `i` through the entry-point table equals the set of
functions held by live owners, in every reachable state. -/
theorem C13_reachable_eq_owned (m : Nat) (ops : List LOp) (hok : histOk ops) (i f : Nat) :
    let w := ops.foldl World.step (World.init m)
    (∃ k, k < w.max ∧ (w.sbx i).slots k = some f) ↔ ∃ o, holdsLive w o i f :=
  (C13_inv m ops hok).slot_iff_live i f

/-- In every reachable state no owner operation aborts: releasing, destroying or moving an owner is
harmless at any time -- in particular after `destroy_sandbox` of its sandbox, and after that sandbox
object has been created again. -/
theorem C13_owner_ops_never_abort (m : Nat) (ops : List LOp) (hok : histOk ops) (o d s : Nat) :
    let w := ops.foldl World.step (World.init m)
    (∃ w', w.release o = some w') ∧ (∃ w', w.moveOwner d s = some w') :=
  ⟨release_total _ o (C13_inv m ops hok), move_total _ d s (C13_inv m ops hok)⟩

/-- A stale owner (its sandbox has been destroyed since it registered, and perhaps created again)
cannot take away anything: releasing it changes no key set and no entry-point table. -/
theorem C13_stale_release_inert (w w' : World) (o i f n : Nat) (ho : w.owners o = some (i, f, n))
    (hst : (w.sbx i).status ≠ .created ∨ (w.sbx i).inc ≠ n) (h : w.release o = some w') :
    w'.sbx = w.sbx ∧ w'.owners o = none := by
  rw [release_stale ho hst] at h; cases h
  exact ⟨rfl, setO_same ..⟩

/-- non-vacuity: the history that was the witness of finding F6b (owner outlives destroy_sandbox,
sandbox created again, same function registered again, stale owner destroyed) is well formed, and
at its end the new registration is still there. -/
example : histOk [.create 0 true 0 0, .register 0 0 7, .destroy 0, .create 0 true 0 0, .register 0 1 7, .release 0] := by
  intro op h
  simp only [List.mem_cons, List.mem_nil_iff, or_false] at h
  rcases h with rfl | rfl | rfl | rfl | rfl | rfl <;> simp [stepOk, tmpOwner]

example :
    let w := [LOp.create 0 true 0 0, .register 0 0 7, .destroy 0, .create 0 true 0 0, .register 0 1 7, .release 0].foldl World.step (World.init 2)
    (w.sbx 0).keys 7 = true ∧ w.owners 1 = some (0, 7, 1) ∧ w.owners 0 = none := by
  decide

end Rlbox.C13
