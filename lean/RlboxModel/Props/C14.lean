import RlboxModel.Lemmas.LifeLemmas
import RlboxModel.Lemmas.General
/-!
# C14 — Sandbox lifecycle is a strict state machine; the live-sandbox registry is exact
Property theorems only.
-/
namespace Rlbox.C14
open Rlbox

/-- the model's status type is the source's `Sandbox_Status` (regenerated from rlbox_sandbox.hpp) -/
theorem status_enum_matches : Generated.statusEnum = Status.names := by decide

/-- create succeeds only on a sandbox that is not created (any other state aborts) ... -/
theorem C14_create_only_from_not_created (w : World) (i : Nat) (ok : Bool) (lib r : Nat)
    (h : (w.sbx i).status ≠ .notCreated) : w.create i ok lib r = none :=
  create_none_of_status w i ok lib r h

/-- ... and from NOT_CREATED (in a region the backend can map) a successful backend creation makes it
CREATED, registered and bound to the given library and region; a failed one leaves it INITIALIZING
(never registered). -/
theorem C14_create_from_not_created (w : World) (i : Nat) (lib r : Nat) (h : (w.sbx i).status = .notCreated)
    (hr : r ∉ w.mapped) :
    (∀ w' b, w.create i true lib r = some (w', b) →
        b = true ∧ (w'.sbx i).status = .created ∧ i ∈ w'.reg ∧ (w'.sbx i).lib = lib ∧ (w'.sbx i).rgn = r) ∧
    (w.create i true lib r).isSome = true ∧
    (∀ w' b, w.create i false lib r = some (w', b) →
        b = false ∧ (w'.sbx i).status = .initializing ∧ w'.reg = w.reg) ∧
    (w.create i false lib r).isSome = true := by
  refine ⟨fun w' b hc => ?_, by simp [World.create, h, hr], fun w' b hc => ?_, by simp [World.create, h, hr]⟩ <;>
    obtain ⟨_, _, rfl, rfl⟩ := create_eq_some_iff.1 hc <;> simp

/-- destroy succeeds only on a created sandbox; afterwards it is NOT_CREATED (can be created again),
its symbol cache, its callback keys and its entry-point table are empty and its incarnation number
has advanced. -/
theorem C14_destroy_only_from_created (w : World) (i : Nat) (h : (w.sbx i).status ≠ .created) : w.destroy i = none := by
  simp [World.destroy, h]

theorem C14_destroy_effect (w w' : World) (i : Nat) (h : w.destroy i = some w') :
    (w.sbx i).status = .created ∧ (w'.sbx i).status = .notCreated ∧ (∀ n, (w'.sbx i).cache n = none) ∧
    w'.reg = w.reg.erase i ∧ (∀ j, j ≠ i → w'.sbx j = w.sbx j) ∧
    (∀ f, (w'.sbx i).keys f = false) ∧ (∀ k, (w'.sbx i).slots k = none) ∧ (w'.sbx i).inc = (w.sbx i).inc + 1 ∧
    w'.mapped = w.mapped.erase (w.sbx i).rgn := by
  obtain ⟨h1, _, rfl⟩ := destroy_eq_some_iff.1 h
  simpa [destroyedObj, h1] using fun j hj => setS_sbx_other w i j _ hj

/-- the registry invariant: exactly the CREATED sandbox objects are in the list, each once -/
def RegInv (w : World) : Prop := (∀ i, i ∈ w.reg ↔ (w.sbx i).status = .created) ∧ w.reg.Nodup

theorem step_regInv (w : World) (op : LOp) (h : RegInv w) : RegInv (w.step op) := by
  obtain ⟨hm, hn⟩ := h
  refine World.step_life_ind (P := RegInv) w (fun w' e => ?_) ?_ ?_ op
  · exact (e ▸ (⟨hm, hn⟩ : RegInv w.life) : RegInv w'.life)
  · intro i ok lib r w' b hc
    obtain ⟨h1, _, _, rfl⟩ := create_eq_some_iff.1 hc
    have hni : i ∉ w.reg := by rw [hm i, h1]; decide
    refine ⟨fun j => ?_, ?_⟩
    · by_cases hj : j = i
      · subst hj; cases ok <;> simp [hni]
      · cases ok <;> simp [setS_sbx, hj, hm j]
    · cases ok
      · exact hn
      · exact List.nodup_concat hn hni
  · intro i w' hd
    obtain ⟨_, s1, _, r, other, _⟩ := C14_destroy_effect w w' i hd
    refine ⟨fun j => ?_, r ▸ hn.erase i⟩
    rw [r, List.Nodup.mem_erase_iff hn]
    by_cases hj : j = i
    · subst hj; simp [s1]
    · simp [other j hj, hj, hm j]

/-- the region invariant (the backend's law, maintained because a backend cannot map a region that is
in use): every live sandbox's region is mapped, and two live sandboxes never share a region -/
def RgnInv (w : World) : Prop :=
  (∀ i, i ∈ w.reg → (w.sbx i).rgn ∈ w.mapped) ∧
  (∀ i j, i ∈ w.reg → j ∈ w.reg → (w.sbx i).rgn = (w.sbx j).rgn → i = j)

theorem step_rgnInv (w : World) (op : LOp) (h : RegInv w) (hr : RgnInv w) : RgnInv (w.step op) := by
  obtain ⟨hm, hn⟩ := h
  obtain ⟨hin, hdis⟩ := hr
  refine World.step_life_ind (P := RgnInv) w (fun w' e => ?_) ?_ ?_ op
  · exact (e ▸ (⟨hin, hdis⟩ : RgnInv w.life) : RgnInv w'.life)
  · intro i ok lib r w' b hc
    obtain ⟨h1, hfree, _, rfl⟩ := create_eq_some_iff.1 hc
    have hni : i ∉ w.reg := by rw [hm i, h1]; decide
    -- the sandboxes that were live keep their objects; the new one, if any, sits in a region that was free
    have old : ∀ j, j ∈ w.reg → ∀ s, (w.setS i s).sbx j = w.sbx j := fun j hj s =>
      setS_sbx_other _ _ _ _ fun e => hni (e ▸ hj)
    have mem : ∀ j, j ∈ (if ok then w.reg ++ [i] else w.reg) → j ∈ w.reg ∨ j = i := fun j hj => by
      cases ok <;> simp at hj <;> simp [hj]
    refine ⟨fun j hj => ?_, fun j k hj hk e => ?_⟩
    · rcases mem j hj with aj | rfl
      · simp only [old j aj]; exact List.mem_cons_of_mem _ (hin j aj)
      · simp
    · rcases mem j hj with aj | rfl <;> rcases mem k hk with ak | rfl
      · simp only [old j aj, old k ak] at e; exact hdis j k aj ak e
      · simp only [old j aj, setS_sbx_same] at e; exact absurd (e ▸ hin j aj) hfree
      · simp only [old k ak, setS_sbx_same] at e; exact absurd (e ▸ hin k ak) hfree
      · rfl
  · intro i w' hd
    obtain ⟨_, _, _, r, other, _, _, _, hmap⟩ := C14_destroy_effect w w' i hd
    have hii := (destroy_eq_some_iff.1 hd).2.1
    have hmem : ∀ j, j ∈ w'.reg → j ∈ w.reg ∧ j ≠ i := fun j hj => by
      rw [r, List.Nodup.mem_erase_iff hn] at hj; exact ⟨hj.2, hj.1⟩
    refine ⟨fun j hj => ?_, fun j k hj hk e => ?_⟩
    · obtain ⟨hj1, hj2⟩ := hmem j hj
      rw [other j hj2, hmap]
      exact (List.mem_erase_of_ne fun e => hj2 (hdis j i hj1 hii e)).2 (hin j hj1)
    · obtain ⟨hj1, hj2⟩ := hmem j hj
      obtain ⟨hk1, hk2⟩ := hmem k hk
      rw [other j hj2, other k hk2] at e
      exact hdis j k hj1 hk1 e

/-- both invariants hold after every history -/
theorem C14_invariants (m : Nat) (ops : List LOp) :
    RegInv (ops.foldl World.step (World.init m)) ∧ RgnInv (ops.foldl World.step (World.init m)) :=
  List.foldlRecOn (motive := fun w => RegInv w ∧ RgnInv w) ops World.step
    ⟨⟨fun i => by simp [World.init], by simp [World.init]⟩, by simp [World.init], by simp [World.init]⟩
    fun w hw op _ => ⟨step_regInv w op hw.1, step_rgnInv w op hw.1 hw.2⟩

/-- For every history (any operations, any length, any number of sandbox objects) the registry
contains exactly the created sandboxes, each once. -/
theorem C14_registry_exact (m : Nat) (ops : List LOp) : RegInv (ops.foldl World.step (World.init m)) :=
  (C14_invariants m ops).1

/-- Exactly between a successful create and the matching destroy a sandbox is found from addresses
inside its memory -- and it is the only one: a lookup with an address of region `r` yields sandbox
`i` iff `i` is created and `r` is the region it was created in; it yields nothing iff no created
sandbox has that region (in particular never a destroyed sandbox whose region has been reused). -/
theorem C14_find (w : World) (h : RegInv w) (hr : RgnInv w) (r i : Nat) :
    (w.find r = some i ↔ ((w.sbx i).status = .created ∧ (w.sbx i).rgn = r)) ∧
    (w.find r = none ↔ ∀ j, (w.sbx j).status = .created → (w.sbx j).rgn ≠ r) := by
  unfold World.find
  constructor
  · -- two live sandboxes with the same region are one
    rw [List.find?_eq_some_iff_of_unique fun a ha b hb pa pb => hr.2 a b ha hb ((beq_iff_eq.1 pa).trans (beq_iff_eq.1 pb).symm),
      h.1 i, beq_iff_eq]
  · simp only [List.find?_eq_none, h.1, beq_iff_eq, ne_eq]

/-- Outside the window: allocation is refused (null), registration aborts, and releasing an owner
leaves the sandbox object untouched (unregistration is ignored). -/
theorem C14_outside_window (w : World) (i : Nat) (h : (w.sbx i).status ≠ .created) :
    w.isCreated i = false ∧ (∀ o f, w.register i o f = none) ∧
    (∀ o f n w', w.owners o = some (i, f, n) → w.release o = some w' → w'.sbx i = w.sbx i) := by
  refine ⟨by simp [World.isCreated, h], fun o f => by simp [World.register, World.registerNew, h], ?_⟩
  intro o f n w' ho hr
  rw [release_stale ho (.inl h)] at hr; cases hr; rfl

/-- Cached symbol addresses of an earlier incarnation are not visible after re-creation: a lookup
after destroy + create resolves in the library bound by the new create. -/
theorem C14_fresh_symbols (w w1 w2 : World) (i lib r : Nat) (name : String)
    (hd : w.destroy i = some w1) (hc : w1.create i true lib r = some (w2, true)) :
    (w2.lookup i name).2 = lib := by
  obtain ⟨_, _, c1, _⟩ := C14_destroy_effect w w1 i hd
  obtain ⟨_, _, _, rfl⟩ := create_eq_some_iff.1 hc
  simp [World.lookup, c1 name]

/-- Full freshness: nothing that belonged to the earlier incarnation is visible in the new one -- no
callback key, no entry point, no cached symbol -- whatever owner objects are still alive, and a
stale owner cannot be told apart from an empty one by the sandbox (its release changes nothing).
(Before the repair of F6b this was false: keys and entry points survived.) -/
theorem C14_fresh_full (w w1 w2 : World) (i lib r : Nat)
    (hd : w.destroy i = some w1) (hc : w1.create i true lib r = some (w2, true)) :
    (∀ f, (w2.sbx i).keys f = false) ∧ (∀ k, (w2.sbx i).slots k = none) ∧ (∀ n, (w2.sbx i).cache n = none) ∧
    (w2.sbx i).inc = (w.sbx i).inc + 1 ∧ w2.owners = w.owners := by
  obtain ⟨_, _, c1, _, _, k1, sl1, n1, _⟩ := C14_destroy_effect w w1 i hd
  obtain ⟨_, _, rfl⟩ := destroy_eq_some_iff.1 hd
  obtain ⟨_, _, _, rfl⟩ := create_eq_some_iff.1 hc
  exact ⟨by simpa using k1, by simpa using sl1, by simpa using c1, by simpa using n1, rfl⟩

/-- consequently every owner of the earlier incarnation is stale in the new one: releasing it leaves
the new incarnation's registrations alone -/
theorem C14_old_owner_inert (w w1 w2 w3 : World) (i lib r o f : Nat) (hle : ∀ o i f n, w.owners o = some (i, f, n) → n ≤ (w.sbx i).inc)
    (hd : w.destroy i = some w1) (hc : w1.create i true lib r = some (w2, true))
    (n : Nat) (ho : w2.owners o = some (i, f, n)) (hr : w2.release o = some w3) : w3.sbx = w2.sbx := by
  obtain ⟨_, _, _, hinc, hown⟩ := C14_fresh_full w w1 w2 i lib r hd hc
  have hn : n ≤ (w.sbx i).inc := hle o i f n (hown ▸ ho)
  rw [release_stale ho (.inr (by omega))] at hr; cases hr; rfl

/-- non-vacuity of `C14_fresh_full`: a created sandbox with a registered function and a live owner -/
example : ∃ w w1 w2 : World, w.destroy 0 = some w1 ∧ w1.create 0 true 1 0 = some (w2, true) ∧
    (w.sbx 0).keys 7 = true ∧ w.owners 0 = some (0, 7, 0) :=
  ⟨{ max := 2, sbx := fun _ => { status := .created, keys := fun f => f == 7 }, reg := [0],
     owners := fun o => if o = 0 then some (0, 7, 0) else none, mapped := [0] }, _, _, rfl, rfl, rfl, rfl⟩

/-- non-vacuity of the region clause of `C14_find`: sandbox object 0 is created in region 5, destroyed,
object 1 is created in the same region: an address of region 5 finds object 1, never object 0 -/
example :
    let w := [LOp.create 0 true 0 5, .destroy 0, .create 1 true 1 5].foldl World.step (World.init 2)
    w.find 5 = some 1 ∧ (w.sbx 0).rgn = 5 ∧ (w.sbx 0).status = .notCreated := by
  decide

end Rlbox.C14
