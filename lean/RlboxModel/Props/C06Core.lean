import RlboxModel.Lemmas.IntLemmas
import RlboxModel.Lemmas.General
/-!
# C06 — Integers crossing the ABI boundary keep their value or the operation aborts
Property theorems only (the part that does not depend on the regenerated source facts; `Props/C06.lean`
adds the tie to the translated source).
-/
namespace Rlbox.C06
open Rlbox

/-- A value of the source type is converted to itself when the destination can hold it, and the conversion aborts
otherwise: each branch of `convert_type_fundamental` makes exactly the checks that the two widths and signednesses
leave open.  (`bool` from anything but `bool` is the exception: `C06_bool_witness`.) -/
theorem convertFund_eq {to fr : IntTy} {v : Int} (hto : to.wf) (hfr : fr.wf)
    (hb : to.isBool = true → fr.isBool = true) (hv : fr.inRange v) :
    convertFund to fr v = if to.inRange v then some v else none := by
  cases htb : to.isBool
  case true =>
    cases hto.eq_of_isBool hfr htb (hb htb)
    rw [convertFund, if_pos ⟨rfl, Nat.le_refl _⟩, if_pos hv, IntTy.cast_of_inRange hto hv]
  -- a branch whose checks amount to `to.inRange v` yields the claimed result, as does one without checks where
  -- `to.inRange v` holds
  have key : ∀ (c : Prop) [Decidable c], (c ↔ to.min ≤ v ∧ v ≤ to.max) →
      (if c then some (to.cast v) else none) = if to.inRange v then some v else none := by
    intro c _ hc
    by_cases h : to.inRange v
    · rw [if_pos (hc.2 h), if_pos h, IntTy.cast_of_inRange hto h]
    · rw [if_neg (mt hc.1 h), if_neg h]
  have key' := fun h => key True (iff_of_true trivial h)
  have pt := IntTy.two_le_half hto.bytes_pos
  have pf := IntTy.two_le_half hfr.bytes_pos
  have hmin : to.min = if to.signed then -2 ^ (to.bits - 1) else 0 := rfl
  have hmax := IntTy.max_eq hto htb
  have hc := IntTy.le_cast_iff (m := to.max) hfr hv
  obtain ⟨hlo, hhi⟩ := hv.bounds hfr
  unfold convertFund
  rcases Bool.eq_false_or_eq_true to.signed with hts | hts <;>
  rcases Bool.eq_false_or_eq_true fr.signed with hfs | hfs <;>
    simp only [hts, hfs, ↓reduceIte, ge_iff_le, true_and, and_true, false_and, and_false, and_self, not_true_eq_false,
      not_false_eq_true, Bool.true_eq_false, Bool.false_eq_true] at hmin hmax hlo hhi hc ⊢
  · -- both signed
    by_cases h : fr.bytes ≤ to.bytes
    · have := IntTy.half_mono h
      rw [if_pos h]; exact key' (by omega)
    · rw [if_neg h]; exact key _ Iff.rfl
  · -- signed from unsigned
    by_cases h : to.bytes ≤ fr.bytes
    · have := IntTy.half_mono h
      rw [if_pos h]; exact key _ (by omega)
    · have := IntTy.half_mono_lt hfr.bytes_pos (Nat.lt_of_not_le h)
      rw [if_neg h]; exact key' (by omega)
  · -- unsigned from signed
    by_cases h : to.bytes < fr.bytes
    · have := IntTy.half_mono_lt hto.bytes_pos h
      rw [if_pos h]; exact key _ (by omega)
    · have := IntTy.half_mono (Nat.le_of_not_lt h)
      rw [if_neg h]; exact key _ (by omega)
  · -- both unsigned
    by_cases h : fr.bytes ≤ to.bytes
    · have := IntTy.half_mono h
      rw [if_pos h]; exact key' (by omega)
    · rw [if_neg h]; exact key _ (by omega)

/-- what C06 demands of one scalar conversion: value preserved (and representable), or abort
(and not representable) -/
def Faithful (to fr : IntTy) (v : Int) : Prop :=
  (convertFund to fr v = some v ∧ to.inRange v) ∨ (convertFund to fr v = none ∧ ¬ to.inRange v)

theorem faithful_of_eq {to fr : IntTy} {v : Int}
    (h : convertFund to fr v = if to.inRange v then some v else none) : Faithful to fr v := by
  unfold Faithful
  rw [h]
  by_cases hin : to.inRange v
  · exact .inl ⟨if_pos hin, hin⟩
  · exact .inr ⟨if_neg hin, hin⟩

/-- Full-strength statement over *every* ordered pair of well-formed integer types. -/
def C06_full : Prop :=
  ∀ (to fr : IntTy) (v : Int), to.wf → fr.wf → fr.inRange v → Faithful to fr v

/-- Proved part: every ordered pair except a `bool` destination fed from a non-`bool` source
(a pair the ABI mapping never produces: see `C06_abi_pairs`). Every value, no sampling. -/
theorem C06_scalar_partial (to fr : IntTy) (v : Int) (hto : to.wf) (hfr : fr.wf)
    (hb : to.isBool = true → fr.isBool = true) (hv : fr.inRange v) : Faithful to fr v :=
  faithful_of_eq (convertFund_eq hto hfr hb hv)

/-- Non-vacuity: the hypotheses are met by concrete non-trivial instances (both outcomes occur). -/
example : Faithful ⟨false, 4, false⟩ ⟨true, 8, false⟩ 4294967295 := by
  apply C06_scalar_partial <;> decide
example : convertFund ⟨false, 4, false⟩ ⟨true, 8, false⟩ 4294967296 = none := by decide
example : convertFund ⟨false, 4, false⟩ ⟨true, 8, false⟩ 4294967295 = some 4294967295 := by decide

/-- The full statement is false of the code as it is: `unsigned char` 200 → `bool` takes the
"same signedness, destination not narrower" branch and silently becomes 1.  This pair is never
produced by the ABI mapping (`C06_abi_pairs`), it is reachable only through the raw helper
`rlbox::detail::convert_type_fundamental`. -/
theorem C06_bool_witness : ¬ C06_full := by
  intro h
  have := h ⟨false, 1, true⟩ ⟨false, 1, false⟩ 200 (by decide) (by decide) (by decide)
  simp [Faithful, convertFund, IntTy.inRange, IntTy.min, IntTy.max, IntTy.cast] at this

/-- Arrays: element-wise, all-or-nothing. -/
theorem C06_array (to fr : IntTy) (vs : List Int) (hto : to.wf) (hfr : fr.wf)
    (hb : to.isBool = true → fr.isBool = true) (hv : ∀ v ∈ vs, fr.inRange v) :
    (convertArr to fr vs = some vs ∧ ∀ v ∈ vs, to.inRange v) ∨
    (convertArr to fr vs = none ∧ ∃ v ∈ vs, ¬ to.inRange v) := by
  have hf := fun v hvm => convertFund_eq hto hfr hb (hv v hvm)
  unfold convertArr
  split
  · -- memcpy: the element-wise conversion would take its unchecked branch, so no element is out of range
    rename_i hs
    refine .inl ⟨rfl, fun v hvm => ?_⟩
    have h := hf v hvm
    rw [convertFund, if_pos ⟨hs.2, Nat.le_of_eq hs.1.symm⟩] at h
    exact (Option.ite_none_right_eq_some.1 h.symm).1
  · by_cases h : ∀ v ∈ vs, to.inRange v
    · exact .inl ⟨mapM_eq_some_iff.2 (List.map_congr_left fun v hvm => (hf v hvm).trans (if_pos (h v hvm))), h⟩
    · obtain ⟨v, hvm, hn⟩ : ∃ v ∈ vs, ¬ to.inRange v := by simpa using h
      exact .inr ⟨mapM_eq_none hvm ((hf v hvm).trans (if_neg hn)), v, hvm, hn⟩

/-- a store, argument or callback result: the value when the guest type can hold it, an abort otherwise -/
theorem toSandbox_eq {abi : Abi} (habi : abi.wf) {t : BaseTy} {v : Int} (hv : t.app.inRange v) :
    toSandbox abi t v = if (t.guest abi).inRange v then some v else none :=
  convertFund_eq (t.guest_wf habi) t.app_wf (fun h => t.guest_isBool abi ▸ h) hv

/-- a load, result or callback argument -/
theorem toApplication_eq {abi : Abi} (habi : abi.wf) {t : BaseTy} {v : Int} (hv : (t.guest abi).inRange v) :
    toApplication abi t v = if t.app.inRange v then some v else none :=
  convertFund_eq t.app_wf (t.guest_wf habi) (fun h => (t.guest_isBool abi).symm ▸ h) hv

/-- Every pair `(T, convert_base_types_t<T>)` and its reverse, for every well-formed ABI and every
base type, is faithful in both directions: store/argument (`toSandbox`) and load/result
(`toApplication`). This is the statement C06 makes about ABI crossings. -/
theorem C06_abi_pairs (abi : Abi) (habi : abi.wf) (t : BaseTy) (v : Int) :
    (t.app.inRange v → Faithful (t.guest abi) t.app v) ∧
    ((t.guest abi).inRange v → Faithful t.app (t.guest abi) v) :=
  ⟨fun hv => faithful_of_eq (toSandbox_eq habi hv), fun hv => faithful_of_eq (toApplication_eq habi hv)⟩

example : abiA.wf ∧ abiB.wf ∧ abiC.wf := by simp [Abi.wf, abiA, abiB, abiC]
/-- non-vacuity of `C06_abi_pairs`: `long` 2^31 does not fit ABI A's 32-bit `long` -/
example : toSandbox abiA .long 2147483648 = none ∧ toSandbox abiA .long 2147483647 = some 2147483647 := by
  decide

end Rlbox.C06
