import RlboxModel.Props.C03
import RlboxModel.Range
import RlboxModel.Lemmas.Arith
/-!
# C10 — Bulk memory operations never straddle or leave the sandbox
Property theorems only.
-/
namespace Rlbox.C10
open Rlbox

/-- every byte of `[p, p+n)` lies in the same `2^k`-aligned block as `p` -/
def OneBlock (k p n : Nat) : Prop := ∀ a, p ≤ a → a < p + n → a / 2 ^ k = p / 2 ^ k

/-- `OneBlock` from its two ends: division is monotone -/
theorem oneBlock_of_ends {k p n : Nat} (h : (p + n - 1) / 2 ^ k = p / 2 ^ k) : OneBlock k p n :=
  fun _ h1 h2 => div_eq_of_between h h1 (by omega)

/-- Soundness of the range check: a checked non-empty range does not wrap around the address
space and lies wholly in one block -- hence wholly inside one sandbox region or wholly outside
every region. For every start and every extent a `size_t` can hold. -/
theorem C10_sound (k p n : Nat) (hp : p < W64) (hn : 0 < n) (hn2 : n < W64)
    (h : checkRange k p n = true) : p + n ≤ W64 ∧ OneBlock k p n :=
  have ⟨_, hw, hb⟩ := (checkRange_iff hp hn hn2).1 h
  ⟨hw, oneBlock_of_ends hb⟩

/-- inside a region: the checked range lies wholly inside that region -/
theorem C10_sound_region (r : Region) (hr : r.wf) (p n : Nat) (hp : r.contains p) (hn : 0 < n)
    (hn2 : n < W64) (h : checkRange r.k p n = true) :
    ∀ a, p ≤ a → a < p + n → r.contains a := by
  intro a ha1 ha2
  have hs := (C10_sound r.k p n (hp.lt_W64 hr) hn hn2 h).2 a ha1 ha2
  rw [Region.contains_iff_div hr] at hp ⊢
  exact hs.trans hp

/-- outside a region: the checked range never touches that region -/
theorem C10_sound_outside (r : Region) (hr : r.wf) (p n : Nat) (hp : ¬ r.contains p) (hpw : p < W64)
    (hn : 0 < n) (hn2 : n < W64) (h : checkRange r.k p n = true) :
    ∀ a, p ≤ a → a < p + n → ¬ r.contains a := by
  intro a ha1 ha2
  have hs := (C10_sound r.k p n hpw hn hn2 h).2 a ha1 ha2
  rw [Region.contains_iff_div hr] at hp ⊢
  exact fun hc => hp (hs.symm.trans hc)

/-- Completeness: a non-empty range with a non-null start that lies in one block passes. -/
theorem C10_complete (k p n : Nat) (h0 : p ≠ 0) (hn : 0 < n) (hw : p + n ≤ W64)
    (hb : (p + n - 1) / 2 ^ k = p / 2 ^ k) : checkRange k p n = true :=
  (checkRange_iff (by omega) hn (by omega)).2 ⟨h0, hw, hb⟩

/-- ... in particular every non-empty range inside a region -/
theorem C10_complete_region (r : Region) (hr : r.wf) (p n : Nat) (hn : 0 < n)
    (h1 : r.contains p) (h2 : p + n ≤ r.base + 2 ^ r.k) : checkRange r.k p n = true := by
  have hb := hr.2.2
  have he : r.contains (p + n - 1) := ⟨by have := h1.1; omega, by omega⟩
  have h0 := h1.ne_zero hr
  rw [Region.contains_iff_div hr] at h1 he
  exact C10_complete r.k p n h0 hn (by omega) (he.trans h1.symm)

/-- Each bulk operation either aborts or touches exactly the ranges it was given, each of which is
non-wrapping and lies in one block. (`total = 2^k` for the mask-based backends.) -/
theorem C10_ops_memset (k dst n : Nat) (rs : List (Nat × Nat)) (hk : k < 64) (hd : dst < W64) (hn : 0 < n)
    (h : memsetOp k (2 ^ k) dst n = some rs) : rs = [(dst, n)] ∧ dst + n ≤ W64 ∧ OneBlock k dst n := by
  obtain ⟨⟨hle, hc⟩, rfl⟩ := Option.ite_some_none_eq_some.1 h
  exact ⟨rfl, C10_sound k dst n hd hn (Nat.lt_of_le_of_lt hle (two_pow_lt_W64 hk)) hc⟩

theorem C10_ops_memcpy (k dst src n : Nat) (rs : List (Nat × Nat)) (hk : k < 64) (hd : dst < W64) (hs : src < W64)
    (hn : 0 < n) (h : memcpyOp k (2 ^ k) dst src n = some rs) :
    rs = [(dst, n), (src, n)] ∧ OneBlock k dst n ∧ OneBlock k src n ∧ dst + n ≤ W64 ∧ src + n ≤ W64 := by
  obtain ⟨⟨hle, hc1, hc2⟩, rfl⟩ := Option.ite_some_none_eq_some.1 h
  have hn2 := Nat.lt_of_le_of_lt hle (two_pow_lt_W64 hk)
  have h1 := C10_sound k dst n hd hn hn2 hc1
  have h2 := C10_sound k src n hs hn hn2 hc2
  exact ⟨rfl, h1.2, h2.2, h1.1, h2.1⟩

/-- extents larger than the sandbox never proceed; null starts never proceed -/
theorem C10_too_large (k dst n : Nat) (h : 2 ^ k < n) : memsetOp k (2 ^ k) dst n = none := by
  unfold memsetOp; simp; omega
theorem C10_null_start (k n total : Nat) : memsetOp k total 0 n = none ∧ ∀ s, memcpyOp k total 0 s n = none ∧ memcpyOp k total s 0 n = none := by
  simp [memsetOp, memcpyOp, checkRange]

/-- Element-counted variants (`copy_and_verify_range`, `copy_and_verify_string`,
`copy_and_verify_buffer_address`, the copy path of `copy_memory_or_deny_access`): for every start,
every count and every element size, a returned non-null start really has `count` whole elements,
non-wrapping, in one block. No side condition: the product is checked for overflow and the range
check rejects wrap-around. -/
theorem C10_counted (k p count elSize q : Nat) (hp : p < W64) (hp0 : p ≠ 0) (he : 0 < elSize)
    (h : verifyRangeHelper k p count elSize = some q) :
    q = p ∧ 0 < count ∧ p + count * elSize ≤ W64 ∧ OneBlock k p (count * elSize) := by
  simp only [verifyRangeHelper, hp0, if_false, Option.ite_none_left_eq_some, Option.ite_some_none_eq_some] at h
  obtain ⟨hc0, hov, hcr, rfl⟩ := h
  have hc : 0 < count := Nat.pos_of_ne_zero hc0
  exact ⟨rfl, hc, C10_sound k p _ hp (Nat.mul_pos hc he) (mul_lt_W64 he hov) hcr⟩

/-- the same for `unverified_safe_pointer_because` -/
theorem C10_safe_pointer (k p count elSize q : Nat) (hp : p < W64) (hp0 : p ≠ 0) (he : 0 < elSize) (hc : 0 < count)
    (h : safePointerBecause k p count elSize = some q) :
    q = p ∧ p + elSize * count ≤ W64 ∧ OneBlock k p (elSize * count) := by
  simp only [safePointerBecause, hp0, if_false, Option.ite_none_left_eq_some, Option.ite_some_none_eq_some] at h
  obtain ⟨hov, hcr, rfl⟩ := h
  exact ⟨rfl, C10_sound k p _ hp (Nat.mul_pos he hc) (Nat.mul_comm count elSize ▸ mul_lt_W64 he hov) hcr⟩

/-- null starts never proceed with a copy; a zero count aborts -/
theorem C10_counted_null_zero (k p elSize : Nat) :
    verifyRangeHelper k p 0 elSize = none ∧ (∀ c, 0 < c → verifyRangeHelper k 0 c elSize = some 0) ∧
    (∀ c, 0 < c → denyAccessCopy k 0 c elSize = some none) := by
  refine ⟨by simp [verifyRangeHelper], fun c hc => ?_, fun c hc => ?_⟩
  · have : c ≠ 0 := by omega
    simp [verifyRangeHelper, this]
  · have : c ≠ 0 := by omega
    simp [denyAccessCopy, verifyRangeHelper, this]

/-- `copy_memory_or_grant_access` with an untrusted allocator behind a backend that does not clamp:
whatever representation `v` the allocator inside the sandbox returns, the copy proceeds only into a
destination range that lies wholly inside the sandbox's region (`mallocIn` admits the start,
`memcpyOp` range-checks the `n` bytes from it). -/
theorem C10_grant_untrusted_allocator (s : Sbx) (hs : C04.Sbx.wf s) (v count size d src n : Nat) (rs : List (Nat × Nat))
    (hd0 : d ≠ 0) (hn : 0 < n) (hn2 : n < W64)
    (hm : mallocIn s v count size = some d) (hc : memcpyOp s.region.k (2 ^ s.region.k) d src n = some rs) :
    ∀ a, d ≤ a → a < d + n → s.region.contains a := by
  have hin : s.region.contains d := (C03.C03_malloc s hs v count size d hm).resolve_left hd0 |>.1
  obtain ⟨⟨_, hc1, _⟩, _⟩ := Option.ite_some_none_eq_some.1 hc
  exact C10_sound_region s.region hs.1 d n hin hn hn2 hc1

example : mallocIn ⟨⟨16, 0x6a0000000000⟩, 4⟩ 0x10040 32 1 = none := by decide

/-- regression witnesses of the repaired defects: the wrapping product and the wrapping range end
are now rejected -/
example : verifyRangeHelper 16 0x6a0000000010 (2 ^ 62 + 1) 4 = none := by decide
example : verifyRangeHelper 16 0x6a0000000064 (2 ^ 64 - 2) 1 = none := by decide
example : safePointerBecause 16 0x6a0000000001 (2 ^ 63) 8 = none := by decide
example : verifyRangeHelper 16 0x6a0000000064 4 4 = some 0x6a0000000064 := by decide

example : checkRange 16 0x6a000000fff0 16 = true ∧ checkRange 16 0x6a000000fff0 17 = false := by decide
example : memsetOp 16 (2 ^ 16) 0x6a0000000000 (2 ^ 16) = some [(0x6a0000000000, 2 ^ 16)] := by decide

/-- `copy_memory_or_deny_access` with `free_source_on_copy`: the application's copy holds exactly the source
bytes as they were at the call -- "carried out on exactly those bytes" -- whatever the sandbox's `free` then
writes into the block it gets back, and the sandbox memory afterwards is what `free` made of it. -/
theorem C10_deny_copy_before_free (mem : Nat → Nat) (free : (Nat → Nat) → (Nat → Nat)) (q n : Nat) (b : Bool) :
    (denyCopyMem mem free q n b).1.length = n ∧
    (∀ i, i < n → (denyCopyMem mem free q n b).1[i]? = some (mem (q + i))) ∧
    (denyCopyMem mem free q n b).2 = (if b then free mem else mem) := by
  refine ⟨by simp [denyCopyMem], fun i hi => ?_, rfl⟩
  simp [denyCopyMem, hi]

example : (denyCopyMem (fun a => a % 7) (fun _ _ => 0xDD) 100 4 true).1 = [2, 3, 4, 5] ∧
    (denyCopyMem (fun a => a % 7) (fun _ _ => 0xDD) 100 4 true).2 101 = 0xDD := by decide

end Rlbox.C10
