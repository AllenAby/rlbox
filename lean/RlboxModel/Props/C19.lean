import RlboxModel.Lemmas.CallLemmas
/-!
# C19 — Transition notifications bracket every boundary crossing and stay balanced
Property theorems only.  (C12 reuses the same automaton for "the callback sees the executing sandbox".)
-/
namespace Rlbox.C19
open Rlbox

/-- a stack on which a new invocation may start: top level, or inside a callback -/
def InvOk : List Frame → Prop
  | [] => True
  | .cb _ _ :: _ => True
  | .inv _ :: _ => False

def runFrom (st : List Frame) (evs : List Ev) : Option (List Frame) := evs.foldl nestStep (some st)

theorem runFrom_cons {st st' : List Frame} {e : Ev} (h : nestStep (some st) e = some st') (es : List Ev) :
    runFrom st (e :: es) = runFrom st' es := by
  rw [runFrom, List.foldl_cons, h, runFrom]

theorem runFrom_append {st st' : List Frame} {a : List Ev} (h : runFrom st a = some st') (b : List Ev) :
    runFrom st (a ++ b) = runFrom st' b := by
  rw [runFrom, List.foldl_append, ← runFrom, h, runFrom]

/-- running one piece after another, where an exception in the first ends the run (`runCbs`, `runInvs`) -/
theorem nests_seq {st : List Frame} {r rest : Run} (h : nests st r.evs) (hrest : nests st rest.evs) :
    nests st (if r.exc then r else ⟨r.evs ++ rest.evs, rest.exc⟩).evs := by
  split
  · exact h
  · exact (runFrom_append h _).trans hrest

theorem step_inI {st : List Frame} (sb : Nat) (h : InvOk st) : nestStep (some st) (.inI sb) = some (.inv sb :: st) := by
  cases st with
  | nil => rfl
  | cons f rest => cases f with
    | inv _ => exact h.elim
    | cb s k => rfl

mutual
  /-- an invocation started on an admissible stack returns the stack unchanged, whatever faults -/
  theorem nests_inv (slots : SlotMap) : ∀ (i : Inv) (st : List Frame), InvOk st → runFrom st (runInv slots i).evs = some st
    | .mk sb arg fault cbs, st, hst => by
      have hb := nests_cbs slots sb cbs st
      have h1 : nestStep (some (.inv sb :: st)) (.guest sb arg) = some (.inv sb :: st) := by simp [nestStep]
      simp only [runInv]
      split
      · rw [runFrom_cons (step_inI sb hst)]; simp [runFrom, nestStep]
      · split <;> (simp only [List.cons_append, List.nil_append]
                   rw [runFrom_cons (step_inI sb hst), runFrom_cons h1, runFrom_append hb]; simp [runFrom, nestStep])
  theorem nests_cbs (slots : SlotMap) (sb : Nat) : ∀ (cs : List Cb) (st : List Frame),
      runFrom (.inv sb :: st) (runCbs slots sb cs).evs = some (.inv sb :: st)
    | [], st => rfl
    | c :: cs, st => nests_seq (nests_cb slots sb c st) (nests_cbs slots sb cs st)
  theorem nests_cb (slots : SlotMap) (sb : Nat) : ∀ (c : Cb) (st : List Frame),
      runFrom (.inv sb :: st) (runCb slots sb c).evs = some (.inv sb :: st)
    | .mk slot arg ret fault invs, st => by
      simp only [runCb]
      split
      · rfl
      · next fn _ =>
        have hb := nests_invs slots invs (.cb sb fn :: .inv sb :: st) trivial
        have h1 : runFrom (.inv sb :: st) [.outC sb fn, .cbRun fn sb arg] = some (.cb sb fn :: .inv sb :: st) := by
          simp [runFrom, nestStep]
        split <;> (simp only [List.append_assoc]; rw [runFrom_append h1, runFrom_append hb]; simp [runFrom, nestStep])
  theorem nests_invs (slots : SlotMap) : ∀ (is : List Inv) (st : List Frame), InvOk st →
      runFrom st (runInvs slots is).evs = some st
    | [], st, _ => rfl
    | i :: is, st, hst => nests_seq (nests_inv slots i st hst) (nests_invs slots is st hst)
end

/-- Every tree of nested invocations and callbacks, of any depth and width, with a fault at any
argument-conversion, callback-body or result-conversion position (or none), produces a properly
nested, balanced sequence of notifications: an invocation is `in ... out`, a callback inside it
`out ... in`, each carrying the sandbox and callback identity of its opening notification. -/
theorem C19_bracketed (slots : SlotMap) (is : List Inv) : nests [] (runInvs slots is).evs :=
  nests_invs slots is [] trivial

theorem count_inv (slots : SlotMap) : ∀ (i : Inv), records (runInv slots i).evs = crossings (runInv slots i).evs :=
  fun i => nests_count (nests_inv slots i [] trivial)
theorem count_cbs (slots : SlotMap) (sb : Nat) : ∀ (cs : List Cb), records (runCbs slots sb cs).evs = crossings (runCbs slots sb cs).evs :=
  fun cs => nests_count (nests_cbs slots sb cs [])
theorem count_cb (slots : SlotMap) (sb : Nat) : ∀ (c : Cb), records (runCb slots sb c).evs = crossings (runCb slots sb c).evs :=
  fun c => nests_count (nests_cb slots sb c [])

/-- Exactly one exit notification / timing record per boundary crossing, also on exceptional exit. -/
theorem C19_one_record_per_crossing (slots : SlotMap) (is : List Inv) :
    records (runInvs slots is).evs = crossings (runInvs slots is).evs :=
  nests_count (C19_bracketed slots is)

/-- `scope_exit` runs its action exactly once, also when moved: a guard is (armed?, action-count). -/
structure Guard where
  armed : Bool
  ran : Nat
/-- move-construction transfers the armed flag and disarms the source -/
def Guard.moveFrom (src : Guard) : Guard × Guard := (⟨src.armed, 0⟩, ⟨false, src.ran⟩)
def Guard.destroy (g : Guard) : Guard := if g.armed then ⟨false, g.ran + 1⟩ else g
theorem C19_scope_exit_once (g : Guard) (h : g.armed = true) (h0 : g.ran = 0) :
    let (dst, src) := g.moveFrom
    (src.destroy).ran + (dst.destroy).ran = 1 := by
  simp [Guard.moveFrom, Guard.destroy, h, h0]

/-- the `in` notifications (entries into sandboxed code) and the `out` notifications (exits) -/
def isIn : Ev → Bool | .inI _ | .inC _ _ => true | _ => false
def isOut : Ev → Bool | .outI _ | .outC _ _ => true | _ => false

/-- A client that defines only ONE of the two hooks still gets every notification of that hook -- for
invocations and for callbacks alike, in the same order --, none of the other hook, and every other
event unchanged; with both hooks the view is the whole trace. -/
theorem C19_single_hook (evs : List Ev) :
    hookView true true evs = evs ∧
    (hookView true false evs).filter isIn = evs.filter isIn ∧ (hookView true false evs).filter isOut = [] ∧
    (hookView false true evs).filter isOut = evs.filter isOut ∧ (hookView false true evs).filter isIn = [] ∧
    (hookView true false evs).filter (fun e => !isTransition e) = evs.filter (fun e => !isTransition e) ∧
    (hookView false true evs).filter (fun e => !isTransition e) = evs.filter (fun e => !isTransition e) := by
  -- a filter of a filter is the filter by both predicates; then compare predicates event by event
  simp only [hookView, List.filter_filter]
  refine ⟨List.filter_eq_self.2 ?_, List.filter_congr ?_, List.filter_eq_nil_iff.2 ?_, List.filter_congr ?_,
    List.filter_eq_nil_iff.2 ?_, List.filter_congr ?_, List.filter_congr ?_⟩ <;>
  intro e _ <;> cases e <;> first | rfl | exact Bool.false_ne_true

/-- so with one hook as with two: exactly one `in` per entry and one `out` per exit (counts of the full
trace, `C19_one_record_per_crossing`) -/
theorem C19_single_hook_counts (slots : SlotMap) (is : List Inv) :
    ((hookView true false (runInvs slots is).evs).filter isIn).length = ((runInvs slots is).evs.filter isIn).length ∧
    ((hookView false true (runInvs slots is).evs).filter isOut).length = ((runInvs slots is).evs.filter isOut).length := by
  have h := C19_single_hook (runInvs slots is).evs
  exact ⟨by rw [h.2.1], by rw [h.2.2.2.1]⟩

/-- non-vacuity: a nested tree with a fault in an inner callback body -/
example :
    let t : List Inv := [.mk 0 5 .none [.mk 1 7 70 .none [.mk 1 9 .none [.mk 0 3 30 .body []]]], .mk 0 6 .none []]
    let slots : SlotMap := fun _ k => if k < 2 then some k else none
    (runInvs slots t).exc = true ∧ crossings (runInvs slots t).evs = 4 := by decide

end Rlbox.C19
