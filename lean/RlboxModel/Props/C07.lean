import RlboxModel.Lemmas.MemLemmas
import RlboxModel.Props.C06Core
/-!
# C07 — Sandbox-memory accesses use exactly the bytes and encoding of the sandbox ABI
Property theorems only.
-/
namespace Rlbox.C07
open Rlbox

/-- Frame: a store through a tainted reference to an integer `T` changes no byte outside
`[a, a + guestSize T)`. Every ABI, type, address, value, surrounding memory. -/
theorem C07_frame (abi : Abi) (t : BaseTy) (a : Nat) (v : Int) (m m' : Mem)
    (h : tvStore abi t a v m = some m') :
    ∀ x, x < a ∨ a + (t.guest abi).bytes ≤ x → m' x = m x := by
  unfold tvStore at h
  split at h
  · cases h
  · cases h; exact write_word_frame _ _ _ _

/-- Round trip: what was stored is what a load decodes (same mathematical value), whenever the store
did not abort. -/
theorem C07_roundtrip (abi : Abi) (habi : abi.wf) (t : BaseTy) (a : Nat) (v : Int) (m m' : Mem)
    (hv : t.app.inRange v) (h : tvStore abi t a v m = some m') : tvLoad abi t a m' = some v := by
  by_cases hin : (t.guest abi).inRange v <;> simp [tvStore, C06.toSandbox_eq habi hv, hin] at h
  subst h
  rw [tvLoad, ofBits_read_write _ v (t.guest_wf habi) hin, C06.toApplication_eq habi hin, if_pos hv]

/-- Decode locality: a load depends only on the `guestSize T` bytes at the address. -/
theorem C07_decode (abi : Abi) (t : BaseTy) (a : Nat) (m1 m2 : Mem)
    (h : ∀ x, a ≤ x → x < a + (t.guest abi).bytes → m1 x = m2 x) : tvLoad abi t a m1 = tvLoad abi t a m2 := by
  unfold tvLoad
  rw [read_congr m1 m2 a _ h]

/-- The footprint is the size the layout model gives the type under the sandbox ABI (the same
function C05 uses as stride and C08 for field offsets). -/
theorem C07_footprint_is_layout (abi : Abi) (t : BaseTy) : (CTy.base t).size abi = (t.guest abi).bytes := by
  simp [CTy.size, CTy.sizeAlign]

/-- Copies between sandbox references of (possibly different) integer types, `*p_T = *p_U`:
frame -- nothing outside the destination's `guestSize T` bytes changes -- ... -/
theorem C07_copy_frame (abi : Abi) (t u : BaseTy) (dst src : Nat) (m m' : Mem)
    (h : tvCopy abi t u dst src m = some m') :
    ∀ x, x < dst ∨ dst + (t.guest abi).bytes ≤ x → m' x = m x := by
  unfold tvCopy at h
  split at h
  · cases h
  · cases h; exact write_word_frame _ _ _ _

/-- ... and value: the source is read with ITS OWN guest width, sign and size; when the copy does
not abort, the destination cell then holds the same mathematical value, and it aborts exactly when
that value is not representable in the destination's guest type. (Pairs with a `bool` destination
and a non-`bool` source are outside C06, see `C06_abi_pairs`.) -/
theorem C07_copy_value (abi : Abi) (habi : abi.wf) (t u : BaseTy) (dst src : Nat) (m : Mem)
    (hb : (t.guest abi).isBool = true → (u.guest abi).isBool = true)
    (hsrc : (u.guest abi).inRange (guestValueAt abi u src m)) :
    (∀ m', tvCopy abi t u dst src m = some m' →
        guestValueAt abi t dst m' = guestValueAt abi u src m ∧ (t.guest abi).inRange (guestValueAt abi u src m)) ∧
    (tvCopy abi t u dst src m = none ↔ ¬ (t.guest abi).inRange (guestValueAt abi u src m)) := by
  unfold tvCopy
  rw [show (u.guest abi).ofBits (decodeLE (m.read src (u.guest abi).bytes)) = guestValueAt abi u src m from rfl,
    C06.convertFund_eq (t.guest_wf habi) (u.guest_wf habi) hb hsrc]
  by_cases hin : (t.guest abi).inRange (guestValueAt abi u src m)
  · simp [hin, guestValueAt.eq_1 abi t, ofBits_read_write _ _ (t.guest_wf habi) hin]
  · simp [hin]

/-- A pointer store writes exactly the `ptrBytes` bytes of the cell. -/
theorem C07_ptr_frame (s : Sbx) (off a : Nat) (m : Mem) :
    ∀ x, x < off ∨ off + s.ptrBytes ≤ x → ptrStoreMem s off a m x = m x :=
  write_word_frame _ _ _ _

/-- non-vacuity: a guest `short` holding -2 copied into a guest `long` (4 bytes under ABI A) is sign-extended,
the byte after the destination keeps its value; 200 in a guest `unsigned char` does not fit a `signed char` -/
example : (tvCopy abiA .long .short 8 0 (fun x => if x = 0 then 0xFE else if x = 1 then 0xFF else 0x11)).map (fun m => m.read 8 5) =
    some [0xFE, 0xFF, 0xFF, 0xFF, 0x11] := by decide
example : (tvCopy abiA .schar .uchar 8 0 (fun x => if x = 0 then 200 else 0)).isNone = true := by decide

/-- non-vacuity: `long` under ABI A occupies 4 bytes; 2^31 does not fit and aborts -/
example : (tvStore abiA .long 100 (-2) (fun _ => 0x11)).map (fun m => (m.read 98 8)) =
    some [0x11, 0x11, 0xFE, 0xFF, 0xFF, 0xFF, 0x11, 0x11] := by decide
example : (tvStore abiA .long 100 2147483648 (fun _ => 0)).isNone = true := by decide
example : tvLoad abiA .ulong 0 (fun x => if x < 4 then 0xFF else 0x77) = some 4294967295 := by decide

end Rlbox.C07
