import RlboxModel.Props.C19
import RlboxModel.Props.C13
import RlboxModel.Lemmas.TlsLemmas
/-!
# C12 — A callback call runs exactly the registered function with faithful arguments
Property theorems only.
-/
namespace Rlbox.C12
open Rlbox

/-- When guest code running in sandbox `sb` calls entry point `slot`, the application function
registered for that entry point -- and no other -- runs next, exactly once at this node, with a
reference to the executing sandbox and with the guest's argument. -/
theorem C12_dispatch (slots : SlotMap) (sb slot fn : Nat) (arg ret : Int) (fault : Fault) (invs : List Inv)
    (h : slots sb slot = some fn) :
    ∃ rest, (runCb slots sb (.mk slot arg ret fault invs)).evs = Ev.outC sb fn :: Ev.cbRun fn sb arg :: rest ∧
      rest = (runInvs slots invs).evs ++ [Ev.inC sb fn] ++
        (if (runInvs slots invs).exc ∨ fault = .body ∨ fault = .resultConv then [] else [Ev.guestGot ret]) := by
  unfold runCb
  simp only [h]
  split
  · exact ⟨(runInvs slots invs).evs ++ [Ev.inC sb fn], by simp, by simp⟩
  · exact ⟨(runInvs slots invs).evs ++ [Ev.inC sb fn, Ev.guestGot ret], by simp, by simp⟩

/-- The callback's result reaches guest code exactly when nothing faulted. -/
theorem C12_result (slots : SlotMap) (sb slot fn : Nat) (arg ret : Int) (invs : List Inv)
    (h : slots sb slot = some fn) (hb : (runInvs slots invs).exc = false) :
    (runCb slots sb (.mk slot arg ret .none invs)).exc = false ∧
    Ev.guestGot ret ∈ (runCb slots sb (.mk slot arg ret .none invs)).evs := by
  unfold runCb
  simp [h, hb]

/-- For nested invoke/callback/invoke chains of any depth, across any sandboxes: every callback
execution in the whole trace receives the sandbox that is executing at that moment and is the
function announced for its entry point, every guest function runs with its own sandbox as the
executing one (`nests` checks `cbRun`/`guest` events against the innermost frame). -/
theorem C12_executing_sandbox (slots : SlotMap) (is : List Inv) : nests [] (runInvs slots is).evs :=
  C19.C19_bracketed slots is

/-- After any history of registrations and unregistrations (C13 invariant), the function behind an
occupied entry point is one that an owner object holds through a registration made in the sandbox's
current incarnation -- and only such functions are reachable. -/
theorem C12_dispatch_after_history (w : World) (hi : C13.Inv w) (i k f : Nat) (hk : k < w.max)
    (h : (w.sbx i).slots k = some f) : ∃ o, C13.holdsLive w o i f :=
  (hi.slot_iff_live i f).1 ⟨k, hk, h⟩

theorem C12_owned_is_reachable (w : World) (hi : C13.Inv w) (i o f : Nat) (h : C13.holdsLive w o i f) :
    ∃ k, k < w.max ∧ (w.sbx i).slots k = some f :=
  (hi.slot_iff_live i f).2 ⟨o, h⟩

/-- Source fact regenerated on every run: the thread-local record of both bundled backends is declared
`thread_local`.  (The dylib backend's callback machinery is no longer compared textually with the noop
backend's: it is executed by the `calls` engine with a dlopen'ed guest library.) -/
theorem backends_thread_data_is_thread_local : Generated.threadDataThreadLocal = true := by decide

/-- **The real mechanism refines the specification.**  The bundled backends do not pass the executing
sandbox to a callback: the trampoline and the interceptor read it from the per-thread record that
`impl_invoke_with_func_ptr` sets and a scope-exit guard restores (`Tls.lean`).  For every call tree --
any depth, any width, any sandboxes, a fault anywhere -- and every initial content of the record, that
machine produces exactly the events of the parameter-passing semantics, and leaves
`thread_data.sandbox` as it found it (so the statement composes over any number of invocations on one
thread). -/
theorem C12_tls_refines (slots : SlotMap) (is : List Inv) (t : Tls) :
    (lrunInvs slots t is).1 = runInvs slots is ∧ (lrunInvs slots t is).2.cur = t.cur :=
  TlsLemmas.tls_invs slots is t

/-- Consequently, in the real mechanism too, every callback execution receives the sandbox that is
executing at that moment and is the function registered for the entry point that was called. -/
theorem C12_tls_executing_sandbox (slots : SlotMap) (is : List Inv) (t : Tls) :
    nests [] (lrunInvs slots t is).1.evs := by
  rw [(C12_tls_refines slots is t).1]; exact C12_executing_sandbox slots is

/-- ... and while guest code of sandbox `sb` runs (the record says `sb`), a call of entry point `slot`
dispatches on `sb`'s table at `slot`, whatever the record's `last_callback_invoked` was before. -/
theorem C12_tls_dispatch (slots : SlotMap) (sb : Nat) (c : Cb) (t : Tls) (h : t.cur = some sb) :
    (lrunCb slots t c).1 = runCb slots sb c ∧ (lrunCb slots t c).2.cur = some sb :=
  TlsLemmas.tls_cb slots sb c t h

/-- non-vacuity: sandbox 0's guest calls a callback whose body invokes sandbox 1 (which calls a callback
of its own); afterwards sandbox 0's guest calls a second callback -- it must still see sandbox 0, which
is exactly what the scope-exit restore provides -/
example :
    let slots : SlotMap := fun sb k => if sb = 0 then some (10 + k) else some (20 + k)
    ((lrunInvs slots Tls.init [.mk 0 5 .none [.mk 1 7 70 .none [.mk 1 9 .none [.mk 0 3 30 .none []]], .mk 2 8 80 .none []]]).1.evs.filter
      (fun e => match e with | .cbRun _ _ _ => true | _ => false) = [.cbRun 11 0 7, .cbRun 20 1 3, .cbRun 12 0 8]) ∧
    (lrunInvs slots Tls.init [.mk 0 5 .none [.mk 1 7 70 .body [.mk 1 9 .none []]]]).2.cur = none := by decide

example :
    let slots : SlotMap := fun sb k => if sb = 0 ∧ k = 1 then some 2 else if sb = 1 ∧ k = 0 then some 0 else none
    (runInvs slots [.mk 0 5 .none [.mk 1 7 70 .none [.mk 1 9 .none [.mk 0 3 30 .none []]]]]).evs.filter
      (fun e => match e with | .cbRun _ _ _ => true | _ => false) = [.cbRun 2 0 7, .cbRun 0 1 3] := by decide

end Rlbox.C12
