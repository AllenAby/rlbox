import RlboxModel.Mem
/-!
The lemmas of `Ptr.lean`: arithmetic modulo `W64`, aligned regions and the same-sandbox test, tainted pointer
arithmetic (`ptrArith`), the range check (`checkRange`); and the two pointer translations of `Mem.lean`.

`W64` stays folded throughout: the wrap-around facts are about an arbitrary modulus `W`, and where `W64` itself
stands in a goal it is an atom to `omega`, so no `omega` call ever sees the numeral `2^64`.
-/
namespace Rlbox

theorem W64_pos : 0 < W64 := Nat.two_pow_pos 64

theorem two_pow_lt_W64 {k : Nat} (h : k < 64) : 2 ^ k < W64 := Nat.pow_lt_pow_right (by decide) h

/-- `count` elements of `elSize` bytes fit in `size_t` when `count` passes the overflow guard -/
theorem mul_lt_W64 {count elSize : Nat} (he : 0 < elSize) (h : ¬ count > (W64 - 1) / elSize) :
    count * elSize < W64 := by
  have := (Nat.le_div_iff_mul_le he).1 (Nat.not_lt.1 h)
  have := W64_pos
  omega

/-- element `x + 1` of an array starts where element `x` ends -/
theorem elem_end_le {x y : Nat} (h : x < y) (stride : Nat) : x * stride + stride ≤ y * stride :=
  Nat.succ_mul x stride ▸ Nat.mul_le_mul_right stride h

/-! ## Wrap-around modulo an arbitrary `W` -/

/-- `a - b` computed as `uintptr_t(a) - uintptr_t(b)` -/
theorem add_sub_mod {W a b : Nat} (hb : b ≤ a) (ha : a < W) : (a + W - b) % W = a - b := by
  rw [Nat.sub_add_comm hb, Nat.add_mod_right, Nat.mod_eq_of_lt (Nat.lt_of_le_of_lt (Nat.sub_le a b) ha)]

/-- an integer within one modulus of `[0, W)` wraps at most once -/
theorem emod_cases {W e : Int} (hlo : -W ≤ e) (hhi : e < 2 * W) :
    (e < 0 ∧ e % W = e + W) ∨ (0 ≤ e ∧ e < W ∧ e % W = e) ∨ (W ≤ e ∧ e % W = e - W) := by
  rcases Int.lt_or_le e 0 with h | h
  · exact .inl ⟨h, by rw [Int.emod_eq_add_self_emod, Int.emod_eq_of_lt (by omega) (by omega)]⟩
  · rcases Int.lt_or_le e W with h' | h'
    · exact .inr (.inl ⟨h, h', Int.emod_eq_of_lt h h'⟩)
    · exact .inr (.inr ⟨h', by rw [← Int.sub_emod_right, Int.emod_eq_of_lt (by omega) (by omega)]⟩)

/-- Let `e` be an integer at most `W - M` away from a point `p` of the window `[b, b+M) ⊆ [0, W)`.  Its residue `t`
modulo `W` lies in the window only if `e` itself does, and then it is `e`: a wrap moves `e` by `W`, hence to a point
at least `M` away from `p`. -/
theorem residue_in_window {W b M p t : Nat} {e : Int} (ht : (t : Int) = e % W) (hb : b + M ≤ W)
    (hp1 : b ≤ p) (hp2 : p < b + M) (hlo : (p : Int) + M - W ≤ e) (hhi : e ≤ p + W - M) :
    (if b ≤ t ∧ t < b + M then some t else none) =
      if (b : Int) ≤ e ∧ e < (b + M : Nat) then some e.toNat else none := by
  rcases emod_cases (W := W) (e := e) (by omega) (by omega) with ⟨h, he⟩ | ⟨h0, h1, he⟩ | ⟨h, he⟩ <;> rw [he] at ht
  · rw [if_neg (by omega), if_neg (by omega)]
  · have : t = e.toNat := by omega
    subst this
    exact ite_congr (propext (by omega)) (fun _ => rfl) (fun _ => rfl)
  · rw [if_neg (by omega), if_neg (by omega)]

/-- the last byte `(p + n - 1) mod W` of a range, as `uintptr_t` arithmetic forms it: exact if the range does not
wrap, below the start if it does -/
theorem last_byte {W p n : Nat} (hp : p < W) (hn : 0 < n) (hn2 : n < W) :
    (p + n ≤ W ∧ (p + n + W - 1) % W = p + n - 1) ∨ (W < p + n ∧ (p + n + W - 1) % W < p) := by
  rw [Nat.sub_add_comm (Nat.add_pos_right p hn), Nat.add_mod_right]
  rcases Nat.lt_or_ge (p + n - 1) W with h | h
  · exact .inl ⟨by omega, Nat.mod_eq_of_lt h⟩
  · rw [Nat.mod_eq_sub_mod h, Nat.mod_eq_of_lt (by omega)]
    exact .inr ⟨by omega, by omega⟩

/-! ## Aligned regions -/

/-- membership in an aligned region is "same block as the base" -/
theorem Region.contains_iff_div {r : Region} (hr : r.wf) (a : Nat) :
    r.contains a ↔ a / 2 ^ r.k = r.base / 2 ^ r.k := by
  have hb : r.base / 2 ^ r.k * 2 ^ r.k = r.base := Nat.div_mul_cancel (Nat.dvd_of_mod_eq_zero hr.1)
  have hM := Nat.two_pow_pos r.k
  rw [Nat.div_eq_iff hM, hb]; unfold Region.contains; omega

/-- an aligned non-null base is at least one region size up, so a region is at most half the address space -/
theorem Region.size_le_base {r : Region} (hr : r.wf) : 2 ^ r.k ≤ r.base :=
  Nat.le_of_dvd hr.2.1 (Nat.dvd_of_mod_eq_zero hr.1)

theorem Region.contains.ne_zero {r : Region} (hr : r.wf) {a : Nat} (h : r.contains a) : a ≠ 0 :=
  Nat.ne_of_gt (Nat.lt_of_lt_of_le hr.2.1 h.1)

theorem Region.contains.lt_W64 {r : Region} (hr : r.wf) {a : Nat} (h : r.contains a) : a < W64 :=
  Nat.lt_of_lt_of_le h.2 hr.2.2

/-- inside an aligned region, "same high bits as an inside address" is exactly membership -/
theorem sameSbx_iff_contains (r : Region) (hr : r.wf) (p t : Nat) (hp : r.contains p) :
    sameSbx r.k p t = true ↔ r.contains t := by
  rw [Region.contains_iff_div hr] at hp ⊢
  simp only [sameSbx, beq_iff_eq, hp]
  exact eq_comm

theorem sameSbx_refl (k p : Nat) : sameSbx k p p = true := by simp [sameSbx]

theorem baseOfExample_eq (r : Region) (hr : r.wf) (ex : Nat) (h : r.contains ex) : baseOfExample r.k ex = r.base := by
  unfold baseOfExample
  rw [(Region.contains_iff_div hr ex).1 h]
  exact Nat.div_mul_cancel (Nat.dvd_of_mod_eq_zero hr.1)

/-- everything between two addresses of one block is in that block -/
theorem div_eq_of_between {M p e a : Nat} (h : e / M = p / M) (h1 : p ≤ a) (h2 : a ≤ e) : a / M = p / M :=
  Nat.le_antisymm (h ▸ Nat.div_le_div_right h2) (Nat.div_le_div_right h1)

/-- designating a byte of an aggregate that starts at an inside address and ends inside the region: the
unchecked `uintptr_t` sum does not wrap and stays inside -/
theorem contains_add_mod {r : Region} (hr : r.wf) {p d size : Nat} (hp : r.contains p) (hd : d < size)
    (hfit : p + size ≤ r.base + 2 ^ r.k) : r.contains ((p + d) % W64) := by
  have h1 := hp.1; have hb := hr.2.2
  rw [Nat.mod_eq_of_lt (by omega)]
  exact ⟨by omega, by omega⟩

/-! ## Tainted pointer arithmetic: `ptrArithCore`, `ptrArith` -/

/-- the product `size_t(n) * s` as the code forms it is `n * s` modulo `2^64` -/
theorem wrapped_offset (n : Int) (s : Nat) :
    (((n % (W64 : Int)).toNat * s % W64 : Nat) : Int) = n * s % W64 := by
  have hW : (W64 : Int) ≠ 0 := Int.ofNat_ne_zero.2 (Nat.ne_of_gt W64_pos)
  rw [Int.natCast_emod, Int.natCast_mul, Int.toNat_of_nonneg (Int.emod_nonneg n hW), Int.mul_emod, Int.emod_emod,
    ← Int.mul_emod]

/-- ... and the sum or difference formed from it is the exact target modulo `2^64` -/
theorem wrapped_target (f : ArithForm) (p : Nat) (n : Int) (s d : Nat) (hd : (d : Int) = n * s % W64) :
    ((if f = .sub then (p + W64 - d) % W64 else (p + d) % W64 : Nat) : Int) = exactTarget f p n s % W64 := by
  have hW : (0 : Int) < W64 := Int.natCast_pos.2 W64_pos
  have hlt : d ≤ p + W64 := by have := Int.emod_lt_of_pos (n * s) hW; omega
  unfold exactTarget
  split
  · rw [Int.natCast_emod, Int.natCast_sub hlt, Int.natCast_add, hd,
      show (p : Int) + W64 - n * s % W64 = p - n * s % W64 + W64 by omega, Int.add_emod_right, Int.sub_emod_emod]
  · rw [Int.natCast_emod, Int.natCast_add, hd, Int.add_emod_emod]

/-- `ptrArithCore` in mathematical terms: null check, exact target reduced modulo `2^64`, same-sandbox check -/
theorem ptrArithCore_eq (k : Nat) (f : ArithForm) (p : Nat) (n : Int) (s : Nat) :
    ptrArithCore k f p n s =
      if p = 0 then none else
        if sameSbx k p (exactTarget f p n s % W64).toNat then some (exactTarget f p n s % W64).toNat else none := by
  unfold ptrArithCore
  simp only [← wrapped_target f p n s _ (wrapped_offset n s), Int.toNat_natCast]

theorem ptrArith_eq_some {k : Nat} {f : ArithForm} {p : Nat} {n : Int} {s t : Nat} :
    ptrArith k f p n s = some t ↔
      offsetOk n s = true ∧ p ≠ 0 ∧ sameSbx k p t = true ∧ (exactTarget f p n s % W64).toNat = t := by
  rw [ptrArith, ptrArithCore_eq]
  simp only [Option.ite_none_right_eq_some, Option.ite_none_left_eq_some, Option.some.injEq]
  constructor <;> rintro ⟨h1, h2, h3, rfl⟩ <;> exact ⟨h1, h2, h3, rfl⟩

/-- the exact target is `|n|*s` away from `p` -/
theorem exactTarget_dist (f : ArithForm) (p : Nat) (n : Int) (s : Nat) :
    (exactTarget f p n s - p).natAbs = n.natAbs * s := by
  have h : (n * (s : Int)).natAbs = n.natAbs * s := by rw [Int.natAbs_mul, Int.natAbs_natCast]
  unfold exactTarget
  split <;> omega

/-- the wrapped arithmetic alone is exact or aborts, whenever the offset `|n|*s` does not come within `2^k` of `2^64`
(the product or the sum would wrap around the address space otherwise) -/
theorem ptrArithCore_exact {r : Region} (hr : r.wf) {p : Nat} (hp : r.contains p) (f : ArithForm) (n : Int) (s : Nat)
    (hprod : n.natAbs * s + 2 ^ r.k ≤ W64) :
    ptrArithCore r.k f p n s =
      if (r.base : Int) ≤ exactTarget f p n s ∧ exactTarget f p n s < ((r.base + 2 ^ r.k : Nat) : Int) then
        some (exactTarget f p n s).toNat else none := by
  rw [ptrArithCore_eq, if_neg (hp.ne_zero hr)]
  simp only [sameSbx_iff_contains r hr p _ hp]
  have hd := exactTarget_dist f p n s
  have hW : (W64 : Int) ≠ 0 := Int.ofNat_ne_zero.2 (Nat.ne_of_gt W64_pos)
  exact residue_in_window (Int.toNat_of_nonneg (Int.emod_nonneg _ hW)) hr.2.2 hp.1 hp.2 (by omega) (by omega)

/-- `check_pointer_offset` bounds the magnitude of the byte offset by `2^63 - 1` -/
theorem offsetOk_iff (n : Int) {s : Nat} (hs : 0 < s) : offsetOk n s = true ↔ n.natAbs * s ≤ (W64 - 1) / 2 := by
  rw [offsetOk, decide_eq_true_iff, Nat.le_div_iff_mul_le hs]

/-! ## The range check -/

/-- what the range check decides, for a start and a non-zero extent that `uintptr_t`/`size_t` can hold -/
theorem checkRange_iff {k p n : Nat} (hp : p < W64) (hn : 0 < n) (hn2 : n < W64) :
    checkRange k p n = true ↔ p ≠ 0 ∧ p + n ≤ W64 ∧ (p + n - 1) / 2 ^ k = p / 2 ^ k := by
  simp only [checkRange, sameSbx, Bool.and_eq_true, bne_iff_ne, ne_eq, beq_iff_eq, Bool.or_eq_true,
    decide_eq_true_eq]
  rcases last_byte hp hn hn2 with ⟨hw, e⟩ | ⟨hw, e⟩
  · have hle : p ≤ p + n - 1 := by omega
    rw [e]
    exact ⟨fun ⟨⟨h0, _⟩, hb⟩ => ⟨h0, hw, hb.symm⟩, fun ⟨h0, _, hb⟩ => ⟨⟨h0, .inr hle⟩, hb.symm⟩⟩
  · exact ⟨fun ⟨⟨_, h⟩, _⟩ => by omega, fun ⟨_, h, _⟩ => by omega⟩

/-! ## Pointer translation of the mask-based backends -/

/-- a non-null representation designates `base` plus an offset inside the region, whatever its high bits -/
theorem toApp_contains {s : Sbx} {rep : Nat} (h : rep ≠ 0) : s.region.contains (toApp s rep) := by
  rw [toApp, if_neg h]
  exact ⟨Nat.le_add_right _ _, Nat.add_lt_add_left (Nat.mod_lt _ (Nat.two_pow_pos _)) _⟩

/-- the representation of an in-region address is its offset, provided the guest pointer is wide enough to hold
every offset of the region -/
theorem toGuest_of_contains {s : Sbx} (hr : s.region.wf) (hk : s.region.k ≤ 8 * s.ptrBytes) {a : Nat}
    (ha : s.region.contains a) : toGuest s a = a - s.region.base := by
  have hlt : a - s.region.base < 2 ^ (8 * s.ptrBytes) :=
    Nat.lt_of_lt_of_le (Nat.sub_lt_left_of_lt_add ha.1 ha.2) (Nat.pow_le_pow_right (by decide) hk)
  rw [toGuest, if_neg (ha.ne_zero hr), add_sub_mod ha.1 (ha.lt_W64 hr), Nat.mod_eq_of_lt hlt]

end Rlbox
