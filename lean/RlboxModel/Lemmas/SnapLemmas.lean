import RlboxModel.Snapshot
/-!
Programs over adversarial sandbox memory (`Snapshot.lean`): how `run` goes through a bind, and postconditions
(`Post`: what every result of a program satisfies, whatever the adversary and the start state) with the rule for
bind, so that a fact about a `copy_and_verify` variant is proved along the text of its program; the postconditions of
the helpers the variants share.
-/
namespace Rlbox.Snap
open Rlbox

theorem run_bind {α β : Type} (adv : Adv) (x : Prog α) (f : α → Prog β) :
    ∀ s, run adv (x >>= f) s = run adv (f (run adv x s).1) (run adv x s).2 := by
  induction x with
  | ret a => intro s; rfl
  | read addr k ih =>
    intro s
    show run adv (Prog.read addr fun b => (k b).bind f) s = _
    simp only [run]
    exact ih _ _

theorem run_clock_mono {α : Type} (adv : Adv) (p : Prog α) : ∀ s, s.clock ≤ (run adv p s).2.clock := by
  induction p with
  | ret a => exact fun s => Nat.le_refl _
  | read addr k ih =>
    exact fun s => Nat.le_of_succ_le (ih (adv s.clock s.mem addr) ⟨adv s.clock s.mem, s.clock + 1⟩)

/-! ## Postconditions -/

def Post {α : Type} (adv : Adv) (p : Prog α) (Q : α → Prop) : Prop := ∀ s, Q (run adv p s).1

theorem Post.pure {α : Type} {adv : Adv} {Q : α → Prop} {a : α} (h : Q a) : Post adv (pure a) Q := fun _ => h

theorem Post.bind {α β : Type} {adv : Adv} {x : Prog α} {f : α → Prog β} {P : α → Prop} {Q : β → Prop}
    (hx : Post adv x P) (hf : ∀ a, P a → Post adv (f a) Q) : Post adv (x >>= f) Q :=
  fun s => by rw [run_bind]; exact hf _ (hx s) _

/-- when nothing need be known of the intermediate result -/
theorem Post.bind' {α β : Type} {adv : Adv} {x : Prog α} {f : α → Prog β} {Q : β → Prop}
    (hf : ∀ a, Post adv (f a) Q) : Post adv (x >>= f) Q :=
  Post.bind (P := fun _ => True) (fun _ => trivial) fun a _ => hf a

/-- the form in which the properties use a postcondition: what holds of a delivered buffer -/
theorem Post.val {adv : Adv} {p : Prog Out} {Q : List Nat → Prop} {s : St} {bs : List Nat}
    (hv : (run adv p s).1 = .val bs) (h : Post adv p (∀ bs, · = .val bs → Q bs)) : Q bs := h s bs hv

/-! ## The helpers of the `copy_and_verify` variants -/

theorem readBytes_post (adv : Adv) (n : Nat) : ∀ a, Post adv (readBytes a n) (·.length = n) := by
  induction n with
  | zero => exact fun a => Post.pure rfl
  | succ n ih => exact fun a => Post.bind' fun b => Post.bind (ih _) fun rest h => Post.pure (by simp [h])

theorem copyLoop_post (adv : Adv) (src : PSrc) (elSize : Nat) (n : Nat) :
    ∀ i, Post adv (copyLoop src elSize n i) (∀ bs, · = some bs → bs.length = n * elSize) := by
  induction n with
  | zero => exact fun i => Post.pure fun bs h => by cases h; simp
  | succ n ih =>
    intro i
    refine Post.bind' fun p => ?_
    split
    · exact Post.pure nofun
    · split
      · exact Post.pure nofun
      · refine Post.bind (readBytes_post adv _ _) fun bs hbs => Post.bind (ih _) fun rest hrest => Post.pure ?_
        intro l hl
        cases rest with
        | none => simp at hl
        | some r => cases hl; simp [hbs, hrest r rfl, Nat.succ_mul]; omega

/-- `verify_range_helper`: a non-null result was range-checked for `count` elements, and `count` is not 0 -/
theorem verifyRange_post (adv : Adv) (src : PSrc) (count elSize : Nat) :
    Post adv (verifyRange src count elSize) (∀ q, · = some q → count ≠ 0 ∧ (q ≠ 0 → q + count * elSize ≤ rsize)) := by
  unfold verifyRange
  split
  · exact Post.pure nofun
  · next hc =>
    refine Post.bind' fun p => ?_
    split
    · exact Post.pure fun q h => by cases h; exact ⟨hc, fun h => (h rfl).elim⟩
    · split
      · next hr => exact Post.pure fun q h => by cases h; exact ⟨hc, fun _ => by simpa [rangeOk] using hr⟩
      · exact Post.pure nofun

/-- `copy_and_verify_range_helper`: a delivered buffer has exactly `count` elements, and that extent
was range-checked against a pointer value inside the sandbox -/
theorem rangeHelper_post (adv : Adv) (src : PSrc) (count elSize : Nat) :
    Post adv (rangeHelper src count elSize)
      (∀ bs, · = .val bs → bs.length = count * elSize ∧ count ≠ 0 ∧ ∃ p, p ≠ 0 ∧ p + count * elSize ≤ rsize) := by
  unfold rangeHelper
  refine Post.bind (verifyRange_post adv src count elSize) fun r hr => ?_
  split
  · exact Post.pure nofun
  · exact Post.pure nofun
  · next q hq0 =>
    obtain ⟨hc, hq⟩ := hr q rfl
    refine Post.bind (copyLoop_post adv src elSize count 0) fun l hl => ?_
    split
    · exact Post.pure nofun
    · next bs => exact Post.pure fun bs' h => by cases h; exact ⟨hl bs rfl, hc, q, by simpa using hq0, hq (by simpa using hq0)⟩

end Rlbox.Snap
