import RlboxModel.Mem
import RlboxModel.Lemmas.IntLemmas
/-! Helper lemmas about little-endian encoding and memory reads/writes. -/
namespace Rlbox

@[simp] theorem encodeLE_length (n v : Nat) : (encodeLE n v).length = n := by
  induction n generalizing v with
  | zero => rfl
  | succ n ih => simp [encodeLE, ih]

theorem decode_encode (n v : Nat) : decodeLE (encodeLE n v) = v % 256 ^ n := by
  induction n generalizing v with
  | zero => simp [encodeLE, decodeLE, Nat.mod_one]
  | succ n ih =>
    simp only [encodeLE, decodeLE, ih]
    rw [Nat.pow_succ, Nat.mul_comm (256 ^ n) 256, Nat.mod_mul]

theorem read_write_same (m : Mem) (a : Nat) (bs : List Nat) : (m.write a bs).read a bs.length = bs := by
  apply List.ext_getElem (by simp [Mem.read])
  intro i _ h
  simp [Mem.read, Mem.write, h]

theorem write_frame (m : Mem) (a : Nat) (bs : List Nat) (x : Nat) (h : x < a ∨ a + bs.length ≤ x) :
    (m.write a bs) x = m x :=
  if_neg (by omega)

/-- a word of `n` bytes stored at `a` changes nothing outside `[a, a + n)` -/
theorem write_word_frame (m : Mem) (a n v : Nat) : ∀ x, x < a ∨ a + n ≤ x → (m.write a (encodeLE n v)) x = m x :=
  fun x hx => write_frame m a _ x (by rwa [encodeLE_length])

theorem read_congr (m1 m2 : Mem) (a n : Nat) (h : ∀ x, a ≤ x → x < a + n → m1 x = m2 x) :
    m1.read a n = m2.read a n :=
  List.map_congr_left fun i hi => h (a + i) (by omega) (by have := List.mem_range.1 hi; omega)

theorem IntTy.toBits_lt (t : IntTy) (v : Int) : t.toBits v < 256 ^ t.bytes := by
  have h : (0 : Int) < 2 ^ t.bits := Int.pow_pos (by decide)
  have e : (256 : Nat) ^ t.bytes = 2 ^ t.bits := by unfold IntTy.bits; rw [Nat.pow_mul]
  unfold IntTy.toBits
  rw [e, Int.toNat_lt (Int.emod_nonneg v (Int.ne_of_gt h))]
  exact_mod_cast Int.emod_lt_of_pos v h

/-- two's-complement round trip for every well-formed integer type -/
theorem ofBits_toBits (t : IntTy) (v : Int) (hw : t.wf) (hv : t.inRange v) :
    t.ofBits (t.toBits v) = v := by
  have hr : 0 ≤ v % 2 ^ t.bits := Int.emod_nonneg v (Int.ne_of_gt (Int.pow_pos (by decide)))
  unfold IntTy.ofBits IntTy.toBits
  -- the same test and the same values, over `Int`
  simp only [Int.toNat_of_nonneg hr, ge_iff_le, Int.le_toNat hr, Int.natCast_pow, Int.cast_ofNat_Int]
  rw [IntTy.two_pow_bits hw.bytes_pos]
  exact IntTy.wrap_eq (hv.bounds hw)

/-- what a cell of type `t` holds after a store of a value of that type -/
theorem ofBits_read_write (t : IntTy) (v : Int) (hw : t.wf) (hv : t.inRange v) (m : Mem) (a : Nat) :
    t.ofBits (decodeLE ((m.write a (encodeLE t.bytes (t.toBits v))).read a t.bytes)) = v := by
  have hr := read_write_same m a (encodeLE t.bytes (t.toBits v))
  rw [encodeLE_length] at hr
  rw [hr, decode_encode, Nat.mod_eq_of_lt (t.toBits_lt v), ofBits_toBits t v hw hv]

end Rlbox
