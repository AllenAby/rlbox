import RlboxModel.Struct
import RlboxModel.Lemmas.IntLemmas
import RlboxModel.Lemmas.MemLemmas
/-!
The lemmas of `Layout.lean` and `Struct.lean`: `roundUp`, alignments (powers of two) and the running layout
(`layoutGo`, `endOff`, `fieldOffsets`); the recursion equations of the field-by-field conversions in the form
`bind`/`map`; the byte image (`writeMany`).
-/
namespace Rlbox

theorem roundUp_ge (x a : Nat) (ha : 0 < a) : x ≤ roundUp x a := by
  have h := Nat.lt_div_mul_add (a := x + a - 1) ha
  simp only [roundUp, Nat.ne_of_gt ha, if_false]
  omega

theorem roundUp_mod (x a : Nat) (ha : 0 < a) : roundUp x a % a = 0 := by
  simp [roundUp, Nat.ne_of_gt ha]

/-- pointer width and integer widths are 1, 2, 4 or 8 bytes -/
def Abi.ok (abi : Abi) : Prop := abi.wf ∧ (abi.ptr = 1 ∨ abi.ptr = 2 ∨ abi.ptr = 4 ∨ abi.ptr = 8)

/-- Alignments are powers of two; that is what makes the larger of two a multiple of both. -/
def Pow2 (a : Nat) : Prop := ∃ k, a = 2 ^ k

theorem Pow2.of_width {a : Nat} (h : a = 1 ∨ a = 2 ∨ a = 4 ∨ a = 8) : Pow2 a := by
  rcases h with rfl | rfl | rfl | rfl
  · exact ⟨0, rfl⟩
  · exact ⟨1, rfl⟩
  · exact ⟨2, rfl⟩
  · exact ⟨3, rfl⟩

theorem Pow2.pos {a : Nat} : Pow2 a → 0 < a
  | ⟨_, h⟩ => h ▸ Nat.pow_pos (by decide)

theorem Pow2.max {a b : Nat} : Pow2 a → Pow2 b → Pow2 (Nat.max a b) ∧ a ∣ Nat.max a b ∧ b ∣ Nat.max a b
  | ⟨i, hi⟩, ⟨j, hj⟩ => by
    subst hi hj
    rcases Nat.le_total i j with h | h
    · rw [show Nat.max (2 ^ i) (2 ^ j) = 2 ^ j from Nat.max_eq_right (Nat.pow_le_pow_right (by decide) h)]
      exact ⟨⟨j, rfl⟩, Nat.pow_dvd_pow 2 h, Nat.dvd_refl _⟩
    · rw [show Nat.max (2 ^ i) (2 ^ j) = 2 ^ i from Nat.max_eq_left (Nat.pow_le_pow_right (by decide) h)]
      exact ⟨⟨i, rfl⟩, Nat.dvd_refl _, Nat.pow_dvd_pow 2 h⟩

/-- the running alignment stays a power of two that the start value and every field's alignment divide -/
theorem layoutGo_snd (abi : Abi) (fs : List CTy) (hfs : ∀ f ∈ fs, Pow2 (f.align abi)) : ∀ off al, Pow2 al →
    Pow2 (CTy.layoutGo abi fs off al).2 ∧ al ∣ (CTy.layoutGo abi fs off al).2 ∧
    ∀ f ∈ fs, f.align abi ∣ (CTy.layoutGo abi fs off al).2 := by
  induction fs with
  | nil => intro off al h; simpa [CTy.layoutGo] using h
  | cons f fs ih =>
    intro off al h
    obtain ⟨hm, h1, h2⟩ := h.max (hfs f List.mem_cons_self)
    obtain ⟨i1, i2, i3⟩ := ih (fun g hg => hfs g (List.mem_cons_of_mem _ hg)) (roundUp off (f.align abi) + f.size abi) _ hm
    refine ⟨i1, Nat.dvd_trans h1 i2, fun g hg => ?_⟩
    cases hg with
    | head => exact Nat.dvd_trans h2 i2
    | tail _ hmem => exact i3 g hmem

mutual
  theorem align_pow2 (abi : Abi) (h : abi.ok) : ∀ t : CTy, Pow2 (t.align abi)
    | .base b => .of_width (b.guest_wf h.1).1
    | .float | .enum => ⟨2, rfl⟩
    | .double => ⟨3, rfl⟩
    | .ptr => .of_width h.2
    | .arr _ el => align_pow2 abi h el
    | .struct fs => (layoutGo_snd abi fs (aligns_pow2 abi h fs) 0 1 ⟨0, rfl⟩).1
  theorem aligns_pow2 (abi : Abi) (h : abi.ok) : ∀ fs : List CTy, ∀ f ∈ fs, Pow2 (f.align abi)
    | [], _, hf => nomatch hf
    | g :: gs, f, hf => by
        cases hf with
        | head => exact align_pow2 abi h g
        | tail _ hm => exact aligns_pow2 abi h gs f hm
end

theorem align_pos (abi : Abi) (h : abi.ok) (t : CTy) : 0 < t.align abi := (align_pow2 abi h t).pos

theorem layoutGo_fst_indep (abi : Abi) (fs : List CTy) : ∀ off al al', (CTy.layoutGo abi fs off al).1 = (CTy.layoutGo abi fs off al').1 := by
  induction fs with
  | nil => intro off al al'; simp [CTy.layoutGo]
  | cons f fs ih => intro off al al'; simp only [CTy.layoutGo]; exact ih _ _ _

/-- end offset (before tail padding) of a field list laid out from `off` -/
def endOff (abi : Abi) (fs : List CTy) (off : Nat) : Nat := (CTy.layoutGo abi fs off 1).1

theorem endOff_cons (abi : Abi) (f : CTy) (fs : List CTy) (off : Nat) :
    endOff abi (f :: fs) off = endOff abi fs (roundUp off (f.align abi) + f.size abi) := by
  unfold endOff
  simp only [CTy.layoutGo, CTy.align, CTy.size]
  exact layoutGo_fst_indep _ _ _ _ _

theorem endOff_ge (abi : Abi) (h : abi.ok) (fs : List CTy) : ∀ off, off ≤ endOff abi fs off := by
  induction fs with
  | nil => intro off; simp [endOff, CTy.layoutGo]
  | cons f fs ih =>
    intro off
    rw [endOff_cons]
    have h1 := ih (roundUp off (f.align abi) + f.size abi)
    have h2 := roundUp_ge off (f.align abi) (align_pos abi h f)
    omega

theorem fieldOffsets_ge (abi : Abi) (h : abi.ok) (fs : List CTy) : ∀ off, ∀ o ∈ fieldOffsets abi fs off, off ≤ o := by
  induction fs with
  | nil => intro off o ho; cases ho
  | cons g gs ih =>
    intro off o ho
    have hge := roundUp_ge off (g.align abi) (align_pos abi h g)
    cases ho with
    | head => exact hge
    | tail _ hm => have := ih _ o hm; omega

/-! ## Field-by-field conversion: the list recursions as `bind`/`map` -/

theorem toGuestArr_cons (abi : Abi) (s : Sbx) (v : SVal) (vs : List SVal) (el : CTy) :
    toGuestArr abi s (v :: vs) el = (toGuestV abi s v el).bind fun g => (toGuestArr abi s vs el).map (g :: ·) := by
  rw [toGuestArr]; cases toGuestV abi s v el <;> cases toGuestArr abi s vs el <;> rfl

theorem toGuestFields_cons (abi : Abi) (s : Sbx) (v : SVal) (vs : List SVal) (f : CTy) (fs : List CTy) :
    toGuestFields abi s (v :: vs) (f :: fs) =
      (toGuestV abi s v f).bind fun g => (toGuestFields abi s vs fs).map (g :: ·) := by
  rw [toGuestFields]; cases toGuestV abi s v f <;> cases toGuestFields abi s vs fs <;> rfl

theorem toAppFields_cons (abi : Abi) (s : Sbx) (g : SVal) (gs : List SVal) (f : CTy) (fs : List CTy) :
    toAppFields abi s (g :: gs) (f :: fs) =
      (toAppV abi s g f).bind fun v => (toAppFields abi s gs fs).map (v :: ·) := by
  rw [toAppFields]; cases toAppV abi s g f <;> cases toAppFields abi s gs fs <;> rfl

/-! ## The image at byte level -/

theorem leafBytes_length (size : Nat) (v : SVal) : (leafBytes size v).length = size := by
  cases v <;> simp [leafBytes]

/-- a sequence of writes changes no byte outside the written extents -/
theorem writeMany_frame (ws : List (Nat × List Nat)) : ∀ (m : Mem) (x : Nat),
    (∀ w ∈ ws, x < w.1 ∨ w.1 + w.2.length ≤ x) → writeMany m ws x = m x := by
  induction ws with
  | nil => intro m x _; rfl
  | cons w rest ih =>
    intro m x h
    rw [writeMany, ih _ x fun w' hw' => h w' (List.mem_cons_of_mem _ hw')]
    exact write_frame m w.1 w.2 x (h w List.mem_cons_self)

end Rlbox
