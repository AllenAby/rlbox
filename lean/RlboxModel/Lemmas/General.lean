/-!
General facts that the model's proofs need and that core does not state.

* The live-sandbox list (`sandbox_list`) is modelled in `Lifecycle.lean` (`World.reg`, `World.find`), in `Threads.lean`
  (`Thr.World.reg`, the `find` step) and in `Mem.lean` (`findSandbox`): `push_back` of an object that is not in the
  list, and a `find?` with a test that at most one live sandbox passes.
* `List.mapM` into `Option` (the element-wise conversions of `convertArr` and `invoke`): all or nothing.
* Exchanging two names: the ownership invariants (`C13.Inv`, `C15.OwnInv`) do not care what owner objects are called.
-/
namespace List

/-- if at most one member of `l` passes the test, `find?` returns exactly that member -/
theorem find?_eq_some_iff_of_unique {α : Type _} {l : List α} {p : α → Bool}
    (h : ∀ a ∈ l, ∀ b ∈ l, p a → p b → a = b) {a : α} : l.find? p = some a ↔ a ∈ l ∧ p a := by
  refine ⟨fun hf => ⟨mem_of_find?_eq_some hf, find?_some hf⟩, fun ⟨ha, hp⟩ => ?_⟩
  cases hf : l.find? p with
  | none => exact absurd hp (find?_eq_none.1 hf a ha)
  | some b => rw [h b (mem_of_find?_eq_some hf) a ha (find?_some hf) hp]

/-- `push_back` of a new element keeps the list duplicate-free -/
theorem nodup_concat {α : Type _} {l : List α} {a : α} (h : l.Nodup) (ha : a ∉ l) : (l ++ [a]).Nodup :=
  nodup_append.2 ⟨h, pairwise_singleton _ a, fun _ hx _ hy e => ha (mem_singleton.1 hy ▸ e ▸ hx)⟩

end List

namespace Rlbox
variable {α β : Type} {f : α → Option β}

/-- it succeeds with `r` exactly when `r` lists the results, all of them successes -/
theorem mapM_eq_some_iff : ∀ {l : List α} {r : List β}, l.mapM f = some r ↔ l.map f = r.map some
  | [], r => by cases r <;> simp
  | a :: l, r => by
    simp only [List.mapM_cons, Option.bind_eq_bind, Option.pure_def, Option.bind_eq_some_iff, Option.some.injEq]
    cases r with
    | nil => simp
    | cons b r => simp [mapM_eq_some_iff (l := l)]

/-- one failure is enough for it to fail -/
theorem mapM_eq_none {l : List α} {a : α} (ha : a ∈ l) (h : f a = none) : l.mapM f = none := by
  rw [Option.eq_none_iff_forall_ne_some]
  intro r hr
  have := List.mem_map_of_mem (f := f) ha
  rw [mapM_eq_some_iff.1 hr, h] at this
  simp at this

/-- exchange of the owner names `x` and `y`: neither ownership invariant (callbacks, `C13.Inv`; app-pointer tokens,
`C15.OwnInv`) cares what owner objects are called, and a move into an empty owner only exchanges two names -/
def swap (x y o : Nat) : Nat := if o = x then y else if o = y then x else o

theorem swap_swap (x y o : Nat) : swap x y (swap x y o) = o := by
  unfold swap
  by_cases h1 : o = x
  · by_cases h : y = x <;> simp [h1, h]
  · by_cases h2 : o = y <;> simp [h1, h2]

end Rlbox
