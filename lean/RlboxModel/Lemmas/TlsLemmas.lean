import RlboxModel.Tls
/-! Helper lemmas: the per-thread-record machine (`Tls.lean`) computes, on every call tree, what the
parameter-passing semantics (`Calls.lean`) computes, and leaves `thread_data.sandbox` as it found it. -/
namespace Rlbox.TlsLemmas
open Rlbox

mutual
  theorem tls_inv (slots : SlotMap) : ∀ (i : Inv) (t : Tls),
      (lrunInv slots t i).1 = runInv slots i ∧ (lrunInv slots t i).2.cur = t.cur
    | .mk sb arg fault cbs, t => by
      have hb := tls_cbs slots sb cbs { t with cur := some sb } rfl
      simp only [lrunInv, runInv, hb.1]
      split
      · exact ⟨rfl, rfl⟩
      · split <;> exact ⟨rfl, rfl⟩
  theorem tls_cbs (slots : SlotMap) (sb : Nat) : ∀ (cs : List Cb) (t : Tls), t.cur = some sb →
      (lrunCbs slots t cs).1 = runCbs slots sb cs ∧ (lrunCbs slots t cs).2.cur = some sb
    | [], t, h => ⟨rfl, h⟩
    | c :: cs, t, h => by
      have h1 := tls_cb slots sb c t h
      have h2 := tls_cbs slots sb cs (lrunCb slots t c).2 h1.2
      simp only [lrunCbs, runCbs, h1.1, h2.1]
      split
      · exact h1
      · exact ⟨rfl, h2.2⟩
  theorem tls_cb (slots : SlotMap) (sb : Nat) : ∀ (c : Cb) (t : Tls), t.cur = some sb →
      (lrunCb slots t c).1 = runCb slots sb c ∧ (lrunCb slots t c).2.cur = some sb
    | .mk slot arg ret fault invs, ⟨_, last⟩, rfl => by
      have hb := tls_invs slots invs ⟨some sb, slot⟩
      simp only [lrunCb, runCb, hb.1]
      cases slots sb slot with
      | none => exact ⟨rfl, rfl⟩
      | some fn => dsimp only; split <;> exact ⟨rfl, hb.2⟩
  theorem tls_invs (slots : SlotMap) : ∀ (is : List Inv) (t : Tls),
      (lrunInvs slots t is).1 = runInvs slots is ∧ (lrunInvs slots t is).2.cur = t.cur
    | [], t => ⟨rfl, rfl⟩
    | i :: is, t => by
      have h1 := tls_inv slots i t
      have h2 := tls_invs slots is (lrunInv slots t i).2
      simp only [lrunInvs, runInvs, h1.1, h2.1]
      split
      · exact h1
      · exact ⟨rfl, h2.2.trans h1.2⟩
end
end Rlbox.TlsLemmas
