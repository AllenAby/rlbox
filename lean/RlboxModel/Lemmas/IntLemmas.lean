import RlboxModel.IntConv
/-! Two's-complement facts about `IntTy` for a width that is a variable: everything is said in terms of the one
power `H = 2 ^ (bits - 1)`, so that what is left to `omega` is linear in `H`. -/
namespace Rlbox.IntTy

theorem wf.bytes_pos {t : IntTy} (h : t.wf) : 0 < t.bytes := by
  rcases h.1 with h | h | h | h <;> omega

/-- there is one `bool` -/
theorem wf.eq_of_isBool {s t : IntTy} (hs : s.wf) (ht : t.wf) (h1 : s.isBool = true) (h2 : t.isBool = true) :
    s = t := by
  obtain ⟨a, b, c⟩ := s; obtain ⟨a', b', c'⟩ := t
  have := hs.2 h1; have := ht.2 h2
  simp_all

theorem two_pow_le {a b : Nat} (h : a ≤ b) : (2 : Int) ^ a ≤ 2 ^ b := by
  have : 2 ^ a ≤ 2 ^ b := Nat.pow_le_pow_right (by decide) h
  exact_mod_cast this

theorem two_le_half {t : IntTy} (h : 0 < t.bytes) : (2 : Int) ≤ 2 ^ (t.bits - 1) :=
  two_pow_le (a := 1) (by unfold bits; omega)

theorem two_pow_bits {t : IntTy} (h : 0 < t.bytes) : (2 : Int) ^ t.bits = 2 * 2 ^ (t.bits - 1) := by
  have : t.bits = (t.bits - 1) + 1 := by unfold bits; omega
  conv => lhs; rw [this, Int.pow_succ]
  omega

theorem half_mono {s t : IntTy} (h : s.bytes ≤ t.bytes) : (2 : Int) ^ (s.bits - 1) ≤ 2 ^ (t.bits - 1) :=
  two_pow_le (by unfold bits; omega)

theorem half_mono_lt {s t : IntTy} (hs : 0 < s.bytes) (h : s.bytes < t.bytes) :
    2 * (2 : Int) ^ (s.bits - 1) ≤ 2 ^ (t.bits - 1) := by
  rw [← two_pow_bits hs]
  exact two_pow_le (by unfold bits; omega)

/-- `numeric_limits<T>::max()` of a type other than `bool` -/
theorem max_eq {t : IntTy} (hw : t.wf) (hb : t.isBool = false) :
    t.max = if t.signed then 2 ^ (t.bits - 1) - 1 else 2 * 2 ^ (t.bits - 1) - 1 := by
  unfold max; rw [two_pow_bits hw.bytes_pos, hb]; rfl

/-- the bounds of a value of `t` (for `bool`: those of `unsigned char`, which are all that is needed of a source) -/
theorem inRange.bounds {t : IntTy} {v : Int} (hv : t.inRange v) (hw : t.wf) :
    (if t.signed then -2 ^ (t.bits - 1) else 0) ≤ v ∧
      v ≤ if t.signed then 2 ^ (t.bits - 1) - 1 else 2 * 2 ^ (t.bits - 1) - 1 := by
  refine ⟨hv.1, Int.le_trans hv.2 ?_⟩
  have := two_le_half hw.bytes_pos
  unfold max; rw [two_pow_bits hw.bytes_pos]
  split
  · split <;> omega
  · exact Int.le_refl _

/-- the residue mod `2 * H`, its upper half read as negative for a signed type, of a number within the bounds is
that number -/
theorem wrap_eq {H v : Int} {sg : Bool} (h : (if sg then -H else 0) ≤ v ∧ v ≤ if sg then H - 1 else 2 * H - 1) :
    (if sg = true ∧ v % (2 * H) ≥ H then v % (2 * H) - 2 * H else v % (2 * H)) = v := by
  cases sg <;> simp only [Bool.false_eq_true, ↓reduceIte, false_and, true_and] at h ⊢
  · exact Int.emod_eq_of_lt h.1 (by omega)
  · by_cases h0 : 0 ≤ v
    · rw [Int.emod_eq_of_lt h0 (by omega), if_neg (by omega)]
    · rw [← Int.add_emod_right, Int.emod_eq_of_lt (by omega) (by omega), if_pos (by omega)]
      omega

/-- `static_cast<T>` does not change a value `T` can hold -/
theorem cast_of_inRange {t : IntTy} {v : Int} (hw : t.wf) (hv : t.inRange v) : t.cast v = v := by
  unfold cast
  cases hb : t.isBool
  · rw [if_neg (by decide)]
    simp only [two_pow_bits hw.bytes_pos, Int.mul_ediv_cancel_left _ (by decide : (2 : Int) ≠ 0)]
    exact wrap_eq (hv.bounds hw)
  · have := hv.1; have := hv.2
    unfold min max at *
    simp only [hb, (hw.2 hb).2, Bool.false_eq_true, ↓reduceIte] at *
    split <;> omega

/-- a comparison with a bound cast to the type of `v`: the cast keeps a bound that type can hold, and `bool`
(whose cast does not wrap) saturates at its own maximum -/
theorem le_cast_iff {t : IntTy} {v m : Int} (hw : t.wf) (hv : t.inRange v) (h1 : 1 ≤ m)
    (hm : m ≤ if t.signed then 2 ^ (t.bits - 1) - 1 else 2 * 2 ^ (t.bits - 1) - 1) : v ≤ t.cast m ↔ v ≤ m := by
  cases hb : t.isBool
  · have h0 : t.min ≤ m := by unfold min; have := two_le_half hw.bytes_pos; split <;> omega
    rw [cast_of_inRange hw ⟨h0, by rwa [max_eq hw hb]⟩]
  · have : v ≤ 1 := by have := hv.2; unfold max at this; rwa [if_pos hb] at this
    have : t.cast m = 1 := by unfold cast; rw [if_pos hb, if_neg (by omega)]
    omega

/-- every value of a non-`bool` type is below `2^bits` -/
theorem lt_two_pow_of_inRange {t : IntTy} (hnb : t.isBool = false) {v : Int} (hv : t.inRange v) :
    v < 2 ^ t.bits := by
  have hmono := two_pow_le (Nat.sub_le t.bits 1)
  have := hv.2
  rw [max, hnb, if_neg Bool.false_ne_true] at this
  split at this <;> omega

/-- `static_cast<make_unsigned_t<T>>` does not change a non-negative value of `T` -/
theorem toUnsigned_cast_of_nonneg {t : IntTy} (hnb : t.isBool = false) {v : Int} (hv : t.inRange v)
    (h0 : 0 ≤ v) : t.toUnsigned.cast v = v := by
  simp only [cast, toUnsigned, hnb, Bool.false_eq_true, if_false, false_and]
  exact Int.emod_eq_of_lt h0 (lt_two_pow_of_inRange hnb hv)

end Rlbox.IntTy

namespace Rlbox.BaseTy

theorem app_wf (t : BaseTy) : t.app.wf := by cases t <;> decide

theorem guest_wf {abi : Abi} (habi : abi.wf) (t : BaseTy) : (t.guest abi).wf := by
  obtain ⟨h1, h2, h3, h4⟩ := habi
  cases t <;> simp [guest, IntTy.wf, *]

/-- `convert_base_types_t` maps `bool` to `bool` and nothing else to it -/
theorem guest_isBool (abi : Abi) (t : BaseTy) : (t.guest abi).isBool = t.app.isBool := by
  cases t <;> rfl

end Rlbox.BaseTy
