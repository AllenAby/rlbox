import RlboxModel.Calls
/-! The bracket automaton of `Calls.lean` (`nestStep`) and the two counts (`crossings`, `records`): every accepted step
keeps "depth + entries so far = exits so far + depth now", so a well-nested trace has as many exit notifications as
entry notifications. -/
namespace Rlbox

theorem crossings_append (a b : List Ev) : crossings (a ++ b) = crossings a + crossings b := by
  simp [crossings, List.filter_append]
theorem records_append (a b : List Ev) : records (a ++ b) = records a + records b := by
  simp [records, List.filter_append]

/-- one accepted step of the automaton: an entry notification pushes a frame, an exit notification pops
one, any other event leaves the depth as it is -/
theorem nestStep_length {st st' : List Frame} {e : Ev} (h : nestStep (some st) e = some st') :
    st.length + crossings [e] = st'.length + records [e] := by
  unfold nestStep at h
  split at h
  · cases h
  · next heq =>
    cases heq
    split at h <;> (try split at h) <;> cases h <;> rfl

theorem foldl_nestStep_none : ∀ es : List Ev, es.foldl nestStep none = none
  | [] => rfl
  | _ :: es => foldl_nestStep_none es

/-- along an accepted trace, depth before + entries = depth after + exits -/
theorem foldl_nestStep_length : ∀ {evs : List Ev} {st st' : List Frame}, evs.foldl nestStep (some st) = some st' →
    st.length + crossings evs = st'.length + records evs
  | [], st, st', h => by cases h; rfl
  | e :: es, st, st', h => by
    rw [List.foldl_cons] at h
    cases hs : nestStep (some st) e with
    | none => rw [hs, foldl_nestStep_none] at h; cases h
    | some s1 =>
      rw [hs] at h
      have h1 := nestStep_length hs
      have h2 := foldl_nestStep_length h
      rw [← List.singleton_append, crossings_append, records_append]; omega

/-- so a well-nested trace has one exit notification per entry notification -/
theorem nests_count {st : List Frame} {evs : List Ev} (h : nests st evs) : records evs = crossings evs := by
  have := foldl_nestStep_length h; omega

end Rlbox
