import RlboxModel.Casts
/-! Helper lemmas about rounding to `p` significant bits (`Casts.lean`). -/
namespace Rlbox.CastLemmas
open Rlbox
theorem bitLen_le (p n : Nat) : bitLen n ≤ p ↔ n < 2 ^ p := by
  unfold bitLen
  by_cases h : n = 0
  · simp [h]; exact Nat.pos_of_ne_zero (by simp)
  · simp only [h, if_false]
    rw [Nat.succ_le_iff, Nat.log2_lt h]

theorem roundSig_exact (p n : Nat) (h : n < 2 ^ p) : roundSig p n = n := by
  unfold roundSig; rw [if_pos ((bitLen_le p n).2 h)]

/-- rounding drops `sh ≥ 1` bits: with `A = 2 ^ sh = 2 * H`, `n = q * A + r` becomes `q * A` or `(q + 1) * A`, whichever
is at most `H` away -/
theorem roundSig_nearest (p n : Nat) (h : ¬ n < 2 ^ p) :
    2 ^ (bitLen n - p) ∣ roundSig p n ∧
    roundSig p n ≤ n + 2 ^ (bitLen n - p - 1) ∧ n ≤ roundSig p n + 2 ^ (bitLen n - p - 1) := by
  have h : ¬ bitLen n ≤ p := mt (bitLen_le p n).1 h
  have hsh : 0 < bitLen n - p := by omega
  simp only [roundSig, if_neg h]
  generalize bitLen n - p = sh at hsh ⊢
  have hA := Nat.two_pow_pred_add_two_pow_pred hsh
  have hdm := Nat.div_add_mod n (2 ^ sh)
  have hr := Nat.mod_lt n (Nat.two_pow_pos sh)
  refine ⟨Nat.dvd_mul_left _ _, ?_⟩
  generalize n / 2 ^ sh = q at *
  generalize n % 2 ^ sh = r at *
  generalize 2 ^ (sh - 1) = H at *
  generalize 2 ^ sh = A at *
  rw [Nat.mul_comm] at hdm
  split
  · rw [Nat.succ_mul]; omega
  · omega

theorem intToFloat_exact (f : FloatTy) (v : Int) (h : v.natAbs < 2 ^ f.prec) : intToFloat f v = v := by
  unfold intToFloat
  rw [roundSig_exact _ _ h]
  split <;> omega

end Rlbox.CastLemmas
